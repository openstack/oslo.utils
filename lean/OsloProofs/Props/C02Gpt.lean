/-
C02 — MBR/GPT acceptance, byte-level iff (for every stream and chunking).
-/
import OsloProofs.Props.C01
import OsloProofs.Props.C02Gate
import OsloProofs.Lemmas.GptCheck
namespace Oslo.Insp

/-- the i-th MBR partition entry (total; the zero entry when the sector is too short) -/
def pteOf (d : Bytes) (j : Nat) : Pte :=
  match gptPte d j with
  | .ok p => p
  | .error _ => ⟨0, 0, 0, 0, 0, 0⟩

/-- the MBR/GPT acceptance condition on `d = stream[0:512]`: the boot signature at 510; not a FAT
    boot sector, which `format_match` recognises by two FATs (byte 0x10 = 2) and media type
    `Gen.gptMediaFdisk` = 0xF8 (byte 0x15); then the three conditions of check_mbr_partitions on the
    four table entries -/
def GptSafe (d : Bytes) : Prop :=
  d.length = 512 ∧ leNat (slice d 510 512) = 0xAA55 ∧
  ¬ (d[0x10]? = some 2 ∧ d[0x15]? = some 0xF8) ∧
  (List.range' 0 4).all (fun j => pteOkB (pteOf d j)) = true ∧
  ¬ ((List.range' 0 4).any (fun j => (pteOf d j).ostype == 0xEE) = true ∧
     (List.range' 0 4).filter (fun j => (pteOf d j).ostype != 0) ≠ [0]) ∧
  (List.range' 0 4).filter (fun j => (pteOf d j).ostype != 0) ≠ []

theorem lemma_gptPte_ok (d : Bytes) (hl : d.length = 512) (j : Nat) (hj : j < 4) :
    gptPte d j = .ok (pteOf d j) := by
  have : (slice d (Gen.gptPteStart + 16 * j) (Gen.gptPteStart + 16 * j + 16)).length = 16 := by
    simp only [slice, Gen.gptPteStart, List.length_drop, List.length_take, hl]; omega
  simp only [pteOf, gptPte, this, ne_eq, not_true_eq_false, if_false]

theorem lemma_gptCheckMbr (s : Insp) (m : Region) (hr : s.region "mbr" = .ok m) (hl : m.data.length = 512) :
    gptCheckMbr s = .ok true ↔
      ((List.range' 0 4).all (fun j => pteOkB (pteOf m.data j)) = true ∧
       ¬ ((List.range' 0 4).any (fun j => (pteOf m.data j).ostype == 0xEE) = true ∧
          (List.range' 0 4).filter (fun j => (pteOf m.data j).ostype != 0) ≠ [0]) ∧
       (List.range' 0 4).filter (fun j => (pteOf m.data j).ostype != 0) ≠ []) := by
  have hloop := lemma_gptLoop m.data (pteOf m.data) 4 0 [] false
    (fun j _ hj => lemma_gptPte_ok _ hl j (by omega))
  simp only [List.nil_append, Bool.false_or] at hloop
  simp only [gptCheckMbr, hr, hloop, bind, Except.bind, pure, Except.pure]
  generalize ((List.range' 0 4).all fun j => pteOkB (pteOf m.data j)) = A
  generalize (List.filter (fun j => (pteOf m.data j).ostype != 0) (List.range' 0 4)) = V
  generalize ((List.range' 0 4).any fun j => (pteOf m.data j).ostype == 238) = F
  cases A <;> cases F <;> cases V <;> simp

theorem lemma_gpt_formatMatch (s : Insp) (m : Region) (hf : s.fmt = .gpt) (hr : s.region "mbr" = .ok m)
    (hc : m.complete = true) (hl : m.data.length = 512) :
    formatMatch s = .ok true ↔
      (leNat (slice m.data 510 512) = 0xAA55 ∧ ¬ (m.data[0x10]? = some 2 ∧ m.data[0x15]? = some 0xF8)) := by
  have hnf : m.data[0x10]? = some (m.data[16]'(by omega)) := List.getElem?_eq_getElem _
  have hmd : m.data[0x15]? = some (m.data[21]'(by omega)) := List.getElem?_eq_getElem _
  have hsl : (slice m.data 510 512).length = 2 := by rw [lemma_slice_length]; omega
  unfold formatMatch
  rw [hf]
  simp only [hr, hc, hnf, hmd, unpackLE, hsl, bind, Except.bind, pure, Except.pure, Bool.not_true,
    Bool.false_eq_true, if_false, if_true, Except.ok.injEq, Gen.gptMbrSignature, Gen.gptMediaFdisk,
    Bool.and_eq_true, Bool.not_eq_true', Bool.and_eq_false_iff, beq_iff_eq, beq_eq_false_iff_ne,
    Option.some.injEq, ← UInt8.toNat_inj, UInt8.reduceToNat, Classical.not_and_iff_not_or_not]

/-- **gpt_accept_iff** — for every stream and chunking the MBR/GPT safety check returns normally iff
    the first 512 bytes are present, carry the 0xAA55 signature and do not look like a FAT boot
    sector, every one of the four partition entries has boot flag 0x00 or 0x80, a protective (0xEE)
    entry has CHS (0,2,0) and LBA 1, a protective entry is alone in slot 0, and at least one entry is
    non-empty -/
theorem gpt_accept_iff (s0 : Insp) (h0 : Insp.init .gpt = some s0) (chunks : List Bytes) :
    safetyCheck (runChunks s0 chunks).1 = .ok ↔ GptSafe (sliceOf chunks.flatten 0 512) := by
  rw [run_plain_eq_spec .gpt rfl s0 h0, lemma_init_eq h0, safety_ok_iff, GptSafe]
  generalize hd : sliceOf chunks.flatten 0 512 = d
  have hr : Insp.region ⟨.gpt, chunks.flatten.length, [("mbr", ⟨0, 0, 512, none, d, false, false⟩)], 1, true,
      ["mbr"], none, none, formatNotFound⟩ "mbr" = .ok ⟨0, 0, 512, none, d, false, false⟩ := rfl
  simp only [Fmt.initRegions, Gen.gpt_regions, specRegions, hd, Fmt.initChecks, Gen.gpt_checks, List.length_cons,
    List.length_nil, Nat.zero_add, List.mem_singleton, forall_eq, Insp.complete, List.all_cons, List.all_nil, Bool.and_true,
    lemma_complete_plain, decide_eq_true_eq]
  by_cases hl : d.length = 512
  · rw [lemma_gpt_formatMatch _ _ (show Insp.fmt ⟨.gpt, _, _, _, _, _, _, _, _⟩ = .gpt from rfl) hr
        (by rw [lemma_complete_plain _ rfl rfl, hl]; rfl) hl, runCheck, lemma_ofExcept_pass, lemma_gptCheckMbr _ _ hr hl]
    · simp only [hl, true_and, and_assoc]
    · rfl
  · have : ¬ 512 = d.length := fun h => hl h.symm
    simp only [hl, this, false_and]

/-- an invalid boot flag in any of the four entries is never accepted -/
theorem gpt_rejects_boot_flag (s0 : Insp) (h0 : Insp.init .gpt = some s0) (chunks : List Bytes) (j : Nat)
    (hj : j < 4) (hb : (pteOf (sliceOf chunks.flatten 0 512) j).boot ≠ 0x00 ∧
                       (pteOf (sliceOf chunks.flatten 0 512) j).boot ≠ 0x80) :
    safetyCheck (runChunks s0 chunks).1 ≠ .ok := by
  rw [Ne, gpt_accept_iff s0 h0]
  rintro ⟨_, _, _, hall, _⟩
  simp only [List.all_eq_true, List.mem_range'_1] at hall
  have := hall j ⟨by omega, by omega⟩
  simp only [pteOkB, Bool.and_eq_true, Bool.or_eq_true, beq_iff_eq] at this
  rcases this.1 with h | h
  · exact hb.1 h
  · exact hb.2 h

/-- an MBR with no partition at all is never accepted -/
theorem gpt_rejects_empty_table (s0 : Insp) (h0 : Insp.init .gpt = some s0) (chunks : List Bytes)
    (hz : ∀ j, j < 4 → (pteOf (sliceOf chunks.flatten 0 512) j).ostype = 0) :
    safetyCheck (runChunks s0 chunks).1 ≠ .ok := by
  rw [Ne, gpt_accept_iff s0 h0]
  rintro ⟨_, _, _, _, _, hne⟩
  apply hne
  rw [List.filter_eq_nil_iff]
  intro j hj
  simp only [List.mem_range'_1] at hj
  simp [hz j (by omega)]

end Oslo.Insp
