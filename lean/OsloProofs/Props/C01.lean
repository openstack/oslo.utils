/-
C01 — the inspection verdict depends on the bytes only, never on the chunking;
whatever is retained for a region is exactly the stream's bytes at its offsets.

Part 1: the capture engine, for every offset, length, stream and chunking (empty chunks
included).  Part 2: whole inspectors of the formats whose regions are fixed at initialisation.
-/
import OsloModel.Inspector
import OsloProofs.Lemmas.Capture
import OsloProofs.Lemmas.Qcow
import OsloProofs.Lemmas.DoBlocks
namespace Oslo.Insp

/-- a freshly created plain region -/
def Region.fresh (rid off len : Nat) (ml : Option Nat) : Region :=
  { rid := rid, offset := off, length := len, minLength := ml, data := [], isEnd := false, endDone := false }

/-- a freshly created end-capture region (`EndCaptureRegion(n)`) -/
def Region.freshEnd (rid n : Nat) : Region :=
  { rid := rid, offset := n, length := n, minLength := none, data := [], isEnd := true, endDone := false }

theorem lemma_fresh_inv (rid off len : Nat) (ml : Option Nat) :
    PlainInv (Region.fresh rid off len ml) [] := by
  simp [PlainInv, Region.fresh, sliceOf]

/-- **capture_static** — a region without `min_length`, present from the first chunk and fed any
    chunking of the stream (empty chunks included) under the skip-when-complete rule, holds exactly
    `stream[offset : offset+length]`; nothing else about it changes. -/
theorem capture_static (rid off len : Nat) (chunks : List Bytes) :
    (Region.fresh rid off len none).feed 0 chunks =
      { Region.fresh rid off len none with data := sliceOf chunks.flatten off len } := by
  obtain ⟨d, e, hinv⟩ :=
    lemma_plain_feed chunks (Region.fresh rid off len none) [] rfl (lemma_fresh_inv rid off len none)
  have hd : d = sliceOf chunks.flatten off len := lemma_plainInv_noMin _ _ rfl rfl hinv
  rw [← hd]
  exact e

/-- it is complete exactly when the stream reaches the end of the region -/
theorem capture_static_complete (rid off len : Nat) (chunks : List Bytes) :
    ((Region.fresh rid off len none).feed 0 chunks).complete = decide (len ≤ chunks.flatten.length - off) := by
  rw [capture_static]
  show decide (len = (sliceOf chunks.flatten off len).length) = _
  rw [lemma_sliceOf_length]
  exact decide_eq_decide.mpr (lemma_eq_min_iff _ _)

/-- **capture_minlen** — with `min_length = m` the retained data is a prefix of the stream slice,
    the region is complete exactly when `m` bytes of the slice exist in the stream, and once
    complete its first `m` bytes do not depend on the chunking. -/
theorem capture_minlen (rid off len m : Nat) (chunks : List Bytes) :
    let r := (Region.fresh rid off len (some m)).feed 0 chunks
    r.data <+: sliceOf chunks.flatten off len ∧
    (r.complete = decide (m ≤ (sliceOf chunks.flatten off len).length)) ∧
    (r.complete = true → r.data.take m = (sliceOf chunks.flatten off len).take m) ∧
    r.offset = off ∧ r.length = len := by
  obtain ⟨d, e, hinv⟩ :=
    lemma_plain_feed chunks (Region.fresh rid off len (some m)) [] rfl (lemma_fresh_inv rid off len (some m))
  obtain ⟨hp, hc⟩ : d <+: sliceOf chunks.flatten off len ∧
      (decide (m ≤ d.length) = false → d = sliceOf chunks.flatten off len) := hinv
  have e : (Region.fresh rid off len (some m)).feed 0 chunks = _ := e
  dsimp only
  rw [e]
  show _ ∧ decide (m ≤ d.length) = _ ∧ (decide (m ≤ d.length) = true → _) ∧ _
  have hlen := hp.length_le
  refine ⟨hp, ?_, fun hcomp => ?_, rfl, rfl⟩
  · by_cases hm : m ≤ d.length
    · exact decide_eq_decide.mpr ⟨fun _ => by omega, fun _ => hm⟩
    · rw [← hc (decide_eq_false hm)]
  · obtain ⟨t, ht⟩ := hp
    rw [← ht, List.take_append_of_le_length (of_decide_eq_true hcomp)]

/-- **endcapture_suffix** — an `EndCaptureRegion(n)` (n > 0) present from the start and fed any
    non-empty chunk list holds the last `min n |stream|` bytes, reports the offset where they start,
    and is complete exactly when `finish()` was called and the stream has at least `n` bytes. -/
theorem endcapture_suffix (rid n : Nat) (hn : 0 < n) (chunks : List Bytes) (hne : chunks ≠ []) :
    let r := ((Region.freshEnd rid n).feed 0 chunks)
    r.data = lastN n chunks.flatten ∧
    r.data.length = min n chunks.flatten.length ∧
    r.offset = chunks.flatten.length - r.data.length ∧
    r.complete = false ∧
    r.finish.complete = decide (n ≤ chunks.flatten.length) := by
  have e := lemma_end_feed chunks (Region.freshEnd rid n) [] rfl (by simp [Region.freshEnd, lastN])
  have e : (Region.freshEnd rid n).feed 0 chunks = _ := e
  dsimp only
  rw [e, if_neg hne]
  have hl := lemma_lastN_length n hn chunks.flatten
  refine ⟨rfl, hl, rfl, Bool.and_false _, ?_⟩
  show (decide (n = (lastN n chunks.flatten).length) && true) = _
  rw [hl, Bool.and_true]
  exact decide_eq_decide.mpr (lemma_eq_min_iff _ _)

/-- what an end-capture region retains is the stream's bytes at the offset it reports -/
theorem endcapture_is_stream_slice (rid n : Nat) (hn : 0 < n) (chunks : List Bytes) (hne : chunks ≠ []) :
    let r := ((Region.freshEnd rid n).feed 0 chunks)
    r.data = sliceOf chunks.flatten r.offset r.data.length := by
  obtain ⟨hd, _, ho, _⟩ := endcapture_suffix rid n hn chunks hne
  dsimp only at hd ho ⊢
  rw [ho, hd]
  exact lemma_lastN_eq_sliceOf n hn _

/-- an empty chunk never changes a plain region -/
theorem capture_empty_chunk_noop (r : Region) (pos : Nat) (h : r.isEnd = false) (hd : r.data.length ≤ r.length) :
    r.capture [] pos = r := by
  obtain ⟨rid, off, len, ml, data, isEnd, endDone⟩ := r
  simp only at h hd
  subst h
  simp only [Region.capture, Bool.false_eq_true, if_false, List.length_nil, Nat.sub_zero, List.drop_nil,
    List.append_nil]
  split
  · congr 1; exact List.take_of_length_le hd
  · rfl

/-! non-vacuity: a concrete stream, three chunkings, the same retained bytes -/
example :
    let s : Bytes := [1, 2, 3, 4, 5, 6, 7, 8, 9]
    ((Region.fresh 0 2 4 none).feed 0 [s]).data = [3, 4, 5, 6] ∧
    ((Region.fresh 0 2 4 none).feed 0 [[1], [], [2, 3, 4], [5, 6, 7, 8], [], [9]]).data = [3, 4, 5, 6] ∧
    ((Region.freshEnd 0 3).feed 0 [[1, 2], [3, 4, 5, 6, 7], [], [8, 9]]).data = [7, 8, 9] := by
  decide

end Oslo.Insp

/-! ## Part 2 — whole inspectors of the formats whose regions are fixed at initialisation
(raw, qcow2, qed, vhd, vdi, iso, gpt, luks): the complete inspector state after any chunking is a
function of the concatenated bytes. -/

namespace Oslo.Insp

/-- the region table a format yields on a whole stream, computed directly from the bytes -/
def specRegions (stream : Bytes) : List Gen.RegionSpec → Nat → List (String × Region)
  | [], _ => []
  | (n, off, len, ml, isEnd) :: rest, k =>
    (n, { rid := k, offset := off, length := len, minLength := ml, data := sliceOf stream off len,
          isEnd := isEnd, endDone := false }) :: specRegions stream rest (k + 1)

/-- every region of the table is a plain region without `min_length` -/
def TableStatic (t : List Gen.RegionSpec) : Bool :=
  t.all (fun e => e.2.2.2.1.isNone && !e.2.2.2.2)

theorem lemma_mk_feed (stream : List Bytes) : ∀ (t : List Gen.RegionSpec) (k : Nat), TableStatic t = true →
    (mkRegions t k).map (fun p => (p.1, p.2.feed 0 stream)) = specRegions stream.flatten t k := by
  intro t
  induction t with
  | nil => intro k _; rfl
  | cons e rest ih =>
    intro k ht
    obtain ⟨n, off, len, ml, isEnd⟩ := e
    simp only [TableStatic, List.all_cons, Bool.and_eq_true, Bool.not_eq_true', Option.isNone_iff_eq_none] at ht
    obtain ⟨⟨hml, hend⟩, hrest⟩ := ht
    subst hml hend
    simp only [mkRegions, List.map_cons, specRegions]
    rw [ih (k + 1) hrest]
    congr 2
    exact capture_static k off len stream

theorem lemma_spec_finish (stream : Bytes) : ∀ (t : List Gen.RegionSpec) (k : Nat), TableStatic t = true →
    (specRegions stream t k).map (fun p => (p.1, p.2.finish)) = specRegions stream t k := by
  intro t
  induction t with
  | nil => intro k _; rfl
  | cons e rest ih =>
    intro k ht
    obtain ⟨n, off, len, ml, isEnd⟩ := e
    simp only [TableStatic, List.all_cons, Bool.and_eq_true, Bool.not_eq_true', Option.isNone_iff_eq_none] at ht
    obtain ⟨⟨hml, hend⟩, hrest⟩ := ht
    subst hml hend
    simp only [specRegions, List.map_cons]
    rw [ih (k + 1) hrest]
    simp [Region.finish]

theorem plain_tables_static (f : Fmt) (hf : f.plain = true) : TableStatic f.initRegions = true := by
  cases f <;> first | decide | (simp [Fmt.plain, Fmt.static] at hf)

/-- **state at every point of the stream** (formats without callbacks): after any chunk list the
    inspector has counted the bytes and every region holds exactly the stream's bytes at its offsets. -/
theorem feed_plain_eq_spec (f : Fmt) (hf : f.plain = true) (s0 : Insp) (h0 : Insp.init f = some s0)
    (chunks : List Bytes) :
    feed s0 chunks = ({ s0 with total := chunks.flatten.length,
                                regions := specRegions chunks.flatten f.initRegions 0 }, none) := by
  have := lemma_init_eq h0
  subst this
  rw [lemma_feed_plain chunks ⟨f, 0, mkRegions f.initRegions 0, _, false, _, none, none, _⟩ hf rfl]
  dsimp only
  rw [lemma_mk_feed chunks _ 0 (plain_tables_static f hf), Nat.zero_add]

/-- **whole run** (formats without callbacks): feed any chunking, then `finish()` -/
theorem run_plain_eq_spec (f : Fmt) (hf : f.plain = true) (s0 : Insp) (h0 : Insp.init f = some s0)
    (chunks : List Bytes) :
    runChunks s0 chunks = ({ s0 with total := chunks.flatten.length, finished := true,
                                     regions := specRegions chunks.flatten f.initRegions 0 }, none) := by
  simp only [runChunks, feed_plain_eq_spec f hf s0 h0, Insp.finish,
    lemma_spec_finish _ _ 0 (plain_tables_static f hf)]

/-- shape of the generated qcow2 table the callback proof needs: one plain header region of
    at least 32 bytes -/
def qcowTable : Option (Nat × Nat) :=
  match Gen.qcow2_regions with
  | [("header", off, len, none, false)] => if 32 ≤ len then some (off, len) else none
  | _ => none

theorem qcow_table_ok : qcowTable.isSome = true := by decide

theorem lemma_qcow_init (s0 : Insp) (h0 : Insp.init .qcow2 = some s0) :
    ∃ off len, Gen.qcow2_regions = [("header", off, len, none, false)] ∧
      QShape s0 (Region.fresh 0 off len none) := by
  obtain ⟨off, len, heq, hbig⟩ : ∃ off len, Gen.qcow2_regions = [("header", off, len, none, false)] ∧ 32 ≤ len := by
    have hq := qcow_table_ok
    unfold qcowTable at hq
    split at hq
    · rename_i off len heq
      split at hq
      · exact ⟨off, len, heq, ‹_›⟩
      · cases hq
    · cases hq
  have := lemma_init_eq h0
  subst this
  refine ⟨off, len, heq, rfl, rfl, ?_, rfl, rfl, hbig, ?_⟩
  · simp only [Fmt.initRegions, heq, mkRegions, Region.fresh]
  · -- nothing captured yet: the header region (`len ≥ 32`) is incomplete
    have : len ≠ 0 := by omega
    simp [qinfoR, Region.fresh, Region.complete, this]

/-- **qcow2 at every point of the stream**: the header region holds the stream's bytes at its offsets
    and `qemu_header_info` is the function `qinfoR` of it -/
theorem feed_qcow_eq_spec (s0 : Insp) (h0 : Insp.init .qcow2 = some s0) (chunks : List Bytes) :
    feed s0 chunks =
      ({ s0 with total := chunks.flatten.length,
                 regions := specRegions chunks.flatten Gen.qcow2_regions 0,
                 qcowInfo := match specRegions chunks.flatten Gen.qcow2_regions 0 with
                   | [(_, h)] => qinfoR h
                   | _ => none }, none) := by
  obtain ⟨off, len, heq, hs⟩ := lemma_qcow_init s0 h0
  have ht : s0.total = 0 := by rw [lemma_init_eq h0]
  rw [lemma_qcow_feed chunks s0 _ hs, heq, ht, Nat.zero_add, capture_static]
  rfl

theorem run_qcow_eq_spec (s0 : Insp) (h0 : Insp.init .qcow2 = some s0) (chunks : List Bytes) :
    runChunks s0 chunks =
      ({ s0 with total := chunks.flatten.length, finished := true,
                 regions := specRegions chunks.flatten Gen.qcow2_regions 0,
                 qcowInfo := match specRegions chunks.flatten Gen.qcow2_regions 0 with
                   | [(_, h)] => qinfoR h
                   | _ => none }, none) := by
  simp only [runChunks, feed_qcow_eq_spec s0 h0, Insp.finish,
    lemma_spec_finish _ _ 0 (show TableStatic Gen.qcow2_regions = true by decide)]

theorem lemma_feed_static (f : Fmt) (hf : f.static = true) (s0 : Insp) (h0 : Insp.init f = some s0) :
    ∃ q : Bytes → Option QcowInfo, ∀ chunks : List Bytes,
      feed s0 chunks = ({ s0 with total := chunks.flatten.length,
                                  regions := specRegions chunks.flatten f.initRegions 0,
                                  qcowInfo := q chunks.flatten }, none) := by
  by_cases hq : f = .qcow2
  · subst hq
    exact ⟨fun b => match specRegions b Gen.qcow2_regions 0 with | [(_, h)] => qinfoR h | _ => none,
      feed_qcow_eq_spec s0 h0⟩
  · have hp : f.plain = true := by simp [Fmt.plain, hf, hq]
    exact ⟨fun _ => s0.qcowInfo, feed_plain_eq_spec f hp s0 h0⟩

/-- **verdict_chunk_independent_static** — for the eight formats whose regions are fixed at
    initialisation, two chunkings of the same bytes (empty chunks included) leave the inspector in the
    *same state*, hence with the same format_match, complete, virtual_size, safety_check outcome,
    context_info and retained bytes. Full strength for these formats. -/
theorem verdict_chunk_independent_static (f : Fmt) (hf : f.static = true) (s0 : Insp)
    (h0 : Insp.init f = some s0) (c1 c2 : List Bytes) (h : c1.flatten = c2.flatten) :
    runChunks s0 c1 = runChunks s0 c2 := by
  obtain ⟨q, hq⟩ := lemma_feed_static f hf s0 h0
  simp only [runChunks, hq, h]

/-- … in particular the verdict (match, complete, virtual size, safety outcome, raised) is the same -/
theorem verdict_eq_static (f : Fmt) (hf : f.static = true) (s0 : Insp)
    (h0 : Insp.init f = some s0) (c1 c2 : List Bytes) (h : c1.flatten = c2.flatten) :
    let v1 := verdict (runChunks s0 c1)
    let v2 := verdict (runChunks s0 c2)
    v1.fmtMatch = v2.fmtMatch ∧ v1.complete = v2.complete ∧ v1.vsize = v2.vsize ∧
    v1.safety = v2.safety ∧ v1.raised = v2.raised := by
  simp only [verdict_chunk_independent_static f hf s0 h0 c1 c2 h, and_self]

/-- these inspectors never raise while being fed -/
theorem static_never_raises (f : Fmt) (hf : f.static = true) (s0 : Insp)
    (h0 : Insp.init f = some s0) (chunks : List Bytes) : (feed s0 chunks).2 = none := by
  obtain ⟨q, hq⟩ := lemma_feed_static f hf s0 h0
  rw [hq]

theorem lemma_spec_slice (stream : Bytes) : ∀ (t : List Gen.RegionSpec) (k : Nat),
    ∀ p ∈ specRegions stream t k, p.2.data = sliceOf stream p.2.offset p.2.data.length := by
  intro t
  induction t with
  | nil => intro k p hp; simp [specRegions] at hp
  | cons e rest ih =>
    intro k p hp
    obtain ⟨n, off, len, ml, isEnd⟩ := e
    simp only [specRegions, List.mem_cons] at hp
    rcases hp with rfl | hp
    · exact (lemma_sliceOf_self_length stream off len).symm
    · exact ih (k + 1) p hp

/-- **retained_is_stream_slice_static** (every prefix of the feed) — whatever one of these
    inspectors retains for a region after any chunk list is exactly the stream's bytes at that
    region's offset. -/
theorem retained_is_stream_slice_static (f : Fmt) (hf : f.static = true) (s0 : Insp)
    (h0 : Insp.init f = some s0) (chunks : List Bytes) :
    ∀ p ∈ (feed s0 chunks).1.regions, p.2.data = sliceOf chunks.flatten p.2.offset p.2.data.length := by
  obtain ⟨q, hq⟩ := lemma_feed_static f hf s0 h0
  rw [hq]
  exact lemma_spec_slice _ _ _

/-- an empty chunk changes nothing (static formats, not yet finished) -/
theorem empty_chunk_noop_static (f : Fmt) (hf : f.static = true) (s0 : Insp)
    (h0 : Insp.init f = some s0) (chunks : List Bytes) :
    feed s0 (chunks ++ [[]]) = feed s0 chunks := by
  obtain ⟨q, hq⟩ := lemma_feed_static f hf s0 h0
  rw [hq, hq, List.flatten_append, List.flatten_singleton, List.append_nil]

/-! non-vacuity: all eight static formats initialise -/
example : ∀ f ∈ Fmt.all, f.static = true → (Insp.init f).isSome = true := by decide

end Oslo.Insp
