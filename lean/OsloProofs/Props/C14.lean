/-
C14 — scalar parsers and validators classify every input exactly.

The property theorems and the lemmas about their vocabulary (`lemma_…`; the lemmas about the model's
primitives are in OsloProofs/Lemmas/C14*.lean).  Every property theorem
quantifies over all strings `s : List Char` (any Unicode scalar values), all integers, all
settings.  The word lists, whitespace set and the interpreter's int<->str digit limit are the
generated definitions `Gen.*`, so a changed table re-checks every theorem below.

Reading notes
* `boolKey s` is `s.strip().lower()`, the key the code looks up.
* `render n` is the canonical base-10 rendering of the integer `n` (`-` sign, no leading zeros).
* CPython refuses int<->str conversions of more than `Gen.maxStrDigits` (4300) digits; the model
  has that limit and the theorems about `is_int_like` / `validate_integer` state it explicitly
  (`overLimit (numDigits n) = false`).  Without the limit clause the property is false on the real
  code (known finding C14-F2), see `intlike_beyond_limit`.
* `check_string_length`: `max_length` 0 or None means "no maximum" (the code's reading).
-/
import OsloModel.Scalars
import OsloProofs.Lemmas.C14
import OsloProofs.Lemmas.C14Literal
namespace Oslo.Scalars

/-- the words documented as true in the docstring of `bool_from_string` -/
def docTrue : List (List Char) :=
  [['t'], ['t', 'r', 'u', 'e'], ['o', 'n'], ['y'], ['y', 'e', 's'], ['1']]

/-- the words documented as false -/
def docFalse : List (List Char) :=
  [['f'], ['f', 'a', 'l', 's', 'e'], ['o', 'f', 'f'], ['n'], ['n', 'o'], ['0']]

/-- `s.strip().lower()` -/
def boolKey (s : List Char) : List Char := pyLower (pyStrip s)

/-- 32 hexadecimal digits -/
def IsHex32 (h : List Char) : Prop := h.length = 32 ∧ ∀ c ∈ h, c ∈ hexChars

/-- the four spellings of a UUID -/
inductive Spelling | plain | hyphenated | braced | urn
  deriving DecidableEq, Repr

def spell : Spelling → List Char → List Char
  | .plain, h => h
  | .hyphenated, h => hyphenate h
  | .braced, h => ['{'] ++ hyphenate h ++ ['}']
  | .urn, h => ['u', 'r', 'n', ':', 'u', 'u', 'i', 'd', ':'] ++ hyphenate h

/-- the code's word tuples are exactly the documented words -/
theorem words_are_documented :
    (∀ w ∈ Gen.trueStrings, w ∈ docTrue) ∧ (∀ w ∈ docTrue, w ∈ Gen.trueStrings) ∧
    (∀ w ∈ Gen.falseStrings, w ∈ docFalse) ∧ (∀ w ∈ docFalse, w ∈ Gen.falseStrings) := by
  decide +kernel

/-- no word is both true and false; every word is non-empty, lower-case and free of whitespace
    (so it can be the result of `strip().lower()`) -/
theorem words_disjoint_and_clean :
    (∀ w ∈ Gen.trueStrings, w ∉ Gen.falseStrings) ∧
    (∀ w ∈ Gen.trueStrings ++ Gen.falseStrings,
      w ≠ [] ∧ ∀ c ∈ w, isSpace c = false ∧ lowerChars c = [c] ∧ c.toNat < 128) := by
  have h : (∀ w ∈ Gen.trueStrings, w ∉ Gen.falseStrings) ∧
      ∀ w ∈ Gen.trueStrings ++ Gen.falseStrings,
        w ≠ [] ∧ ∀ c ∈ w, isSpace c = false ∧ lowerChar c = c ∧ c.toNat < 128 := by decide +kernel
  refine ⟨h.1, fun w hw => ⟨(h.2 w hw).1, fun c hc => ?_⟩⟩
  obtain ⟨h1, h2, h3⟩ := (h.2 w hw).2 c hc
  exact ⟨h1, by rw [lemma_lowerChars_ascii c h3, h2], h3⟩

/-- the transcription of int()'s whitespace (ASCII transform, then C isspace) agrees with the set
    probed from the interpreter, on ASCII and on every `str.isspace` code point -/
theorem int_whitespace_matches_probe :
    (∀ n, n < 128 → isIntSpace (intAscii (Char.ofNat n)) = Gen.intSpaceCodes.contains n) ∧
    (∀ n ∈ Gen.spaceCodes, isIntSpace (intAscii (Char.ofNat n)) = Gen.intSpaceCodes.contains n) := by
  refine ⟨fun n hn => ?_, by decide +kernel⟩
  -- below 127 the transform is the identity and both sides say `9 ≤ n ≤ 13 ∨ n = 32`: only the
  -- first six probed code points are below 128
  have hc : Gen.intSpaceCodes.contains n = ((9 ≤ n && n ≤ 13) || n == 32) := by
    rw [lemma_contains_take Gen.intSpaceCodes 6 128 n (by decide +kernel) hn]
    revert n
    decide +kernel
  by_cases h : n < 127
  · have e := lemma_toNat_ofNat n (by omega)
    rw [hc, intAscii, if_pos (by omega), isIntSpace, e]
  · obtain rfl : n = 127 := by omega
    decide +kernel

/-! ### bool_from_string

`TRUE_STRINGS` / `FALSE_STRINGS` are public module attributes; a caller may rebind them.  The clauses
are proved for whatever tables the functions see when they are called (`boolFromStringT`,
`isValidBoolstrT`); the clauses about the tables as shipped are their instances. -/

theorem lemma_boolT_str (ts fs : List (List Char)) (s : List Char) (strict : Bool) :
    boolFromStringT ts fs (.str s) strict =
      if ts.contains (boolKey s) then .ok (.val true)
      else if fs.contains (boolKey s) then .ok (.val false)
      else if strict then .error .valueError else .ok .dflt := rfl

/-- True exactly on the words of the true table in force -/
theorem bool_tables_true_iff (ts fs : List (List Char)) (s : List Char) (strict : Bool) :
    boolFromStringT ts fs (.str s) strict = .ok (.val true) ↔ boolKey s ∈ ts := by
  rw [lemma_boolT_str]
  by_cases h1 : boolKey s ∈ ts
  · simp [h1]
  · by_cases h2 : boolKey s ∈ fs <;> cases strict <;> simp [h1, h2]

/-- False exactly on the words of the false table in force that are not also in the true table -/
theorem bool_tables_false_iff (ts fs : List (List Char)) (s : List Char) (strict : Bool) :
    boolFromStringT ts fs (.str s) strict = .ok (.val false) ↔ boolKey s ∈ fs ∧ boolKey s ∉ ts := by
  rw [lemma_boolT_str]
  by_cases h1 : boolKey s ∈ ts
  · simp [h1]
  · by_cases h2 : boolKey s ∈ fs <;> cases strict <;> simp [h1, h2]

/-- True exactly on the true words, for every string, strict or not -/
theorem bool_true_iff (s : List Char) (strict : Bool) :
    boolFromString (.str s) strict = .ok (.val true) ↔ boolKey s ∈ Gen.trueStrings :=
  bool_tables_true_iff _ _ s strict

/-- False exactly on the false words, for every string, strict or not -/
theorem bool_false_iff (s : List Char) (strict : Bool) :
    boolFromString (.str s) strict = .ok (.val false) ↔ boolKey s ∈ Gen.falseStrings :=
  (bool_tables_false_iff _ _ s strict).trans
    ⟨And.left, fun h => ⟨h, fun ht => words_disjoint_and_clean.1 _ ht h⟩⟩

/-- any other string: the default when lenient, ValueError when strict -/
theorem bool_otherwise (s : List Char)
    (h1 : boolKey s ∉ Gen.trueStrings) (h2 : boolKey s ∉ Gen.falseStrings) :
    boolFromString (.str s) false = .ok .dflt ∧ boolFromString (.str s) true = .error .valueError := by
  simp [boolFromString, lemma_boolT_str, h1, h2]

/-- `isinstance(subject, bool)`: returned as it is, strict or not -/
theorem bool_passthrough (b strict : Bool) : boolFromString (.bool b) strict = .ok (.val b) := rfl

/-- any other non-str subject is read through `str()` -/
theorem bool_nonstr_via_str (v : PyVal) (strict : Bool) (t : List Char)
    (hv : ∀ b, v ≠ .bool b) (ht : pyStr v = .ok t) :
    boolFromString v strict = boolFromString (.str t) strict := by
  cases v with
  | bool b => exact absurd rfl (hv b)
  | str s => simp [pyStr] at ht; rw [ht]
  | int n => simp only [pyStr] at ht; simp only [boolFromString, boolFromStringT, pyStr, ht]
  | other x r => simp only [pyStr, Except.ok.injEq] at ht; subst ht; simp only [boolFromString, boolFromStringT, pyStr]

example : boolFromString (.int 1) true = .ok (.val true) := by decide +kernel
example : boolFromString (.other ['N', 'o', 'n', 'e'] (.error .typeError)) true = .error .valueError := by
  decide +kernel

/-- a text whose `str.lower()` is a word is an ASCII text, lowered letter by letter: the words are
    ASCII and contain neither `i` nor `k`, the only ASCII letters a non-ASCII character lowers to -/
theorem lemma_key_ascii (t : List Char) (h : pyLower t ∈ Gen.trueStrings ++ Gen.falseStrings) :
    pyLower t = t.map lowerChar ∧ ∀ c ∈ t, c.toNat < 128 := by
  have hw : ∀ w ∈ Gen.trueStrings ++ Gen.falseStrings, ∀ x ∈ w, x.toNat < 128 ∧ x ≠ 'i' ∧ x ≠ 'k' := by
    decide +kernel
  exact lemma_pyLower_into (· ∈ pyLower t) (hw _ h) t (fun x hx => hx)

/-- "ignoring case and surrounding whitespace": every word, in every per-letter casing `w'`, with
    any whitespace padding left and right, is recognised -/
theorem bool_accepts_padded_cased (w w' l r : List Char) (strict : Bool)
    (hw : w ∈ Gen.trueStrings ++ Gen.falseStrings) (hcase : pyLower w' = w)
    (hl : ∀ c ∈ l, isSpace c = true) (hr : ∀ c ∈ r, isSpace c = true) :
    boolFromString (.str (l ++ w' ++ r)) strict = .ok (.val (decide (w ∈ Gen.trueStrings))) := by
  have hmap := (lemma_key_ascii w' (hcase ▸ hw)).1
  -- no character of `w'` is whitespace, since its lower-casing is a character of the word
  have hns : ∀ c ∈ w', isSpace c = false := fun c hc =>
    lemma_isSpace_lowerChar c
      ((words_disjoint_and_clean.2 w hw).2 _ (by rw [← hcase, hmap]; exact List.mem_map.mpr ⟨c, hc, rfl⟩)).1
  have hkey : boolKey (l ++ w' ++ r) = w := by
    unfold boolKey pyStrip
    rw [lemma_strip_pad isSpace l w' r hl hr hns, hcase]
  by_cases ht : w ∈ Gen.trueStrings
  · simpa [ht] using (bool_true_iff (l ++ w' ++ r) strict).mpr (by rw [hkey]; exact ht)
  · have hf : w ∈ Gen.falseStrings := (List.mem_append.mp hw).resolve_left ht
    simpa [ht] using (bool_false_iff (l ++ w' ++ r) strict).mpr (by rw [hkey]; exact hf)

example : boolFromString (.str [' ', 'Y', 'e', 'S', Char.ofNat 0x3000]) true = .ok (.val true) :=
  bool_accepts_padded_cased ['y', 'e', 's'] ['Y', 'e', 'S'] [' '] [Char.ofNat 0x3000] true
    (by decide +kernel) (by decide +kernel) (by decide +kernel) (by decide +kernel)

/-- int_from_bool_as_string is 1 exactly on the true words, 0 on every other string -/
theorem int_from_bool_iff (s : List Char) :
    intFromBoolAsString (.str s) = .ok (if boolKey s ∈ Gen.trueStrings then 1 else 0) := by
  unfold intFromBoolAsString intFromBoolAsStringT
  rw [lemma_boolT_str]
  by_cases h1 : boolKey s ∈ Gen.trueStrings
  · simp [h1]
  · by_cases h2 : boolKey s ∈ Gen.falseStrings <;> simp [h1, h2]

/-- for ANY tables: on unpadded input is_valid_boolstr holds exactly when strict bool_from_string
    returns a boolean, and fails exactly when it raises ValueError -/
theorem boolstr_agrees_unpadded_any_tables (ts fs : List (List Char)) (s : List Char)
    (h : pyStrip s = s) :
    (isValidBoolstrT ts fs (.str s) = .ok true ↔ ∃ b, boolFromStringT ts fs (.str s) true = .ok (.val b)) ∧
    (isValidBoolstrT ts fs (.str s) = .ok false ↔ boolFromStringT ts fs (.str s) true = .error .valueError) := by
  have hk : boolKey s = pyLower s := by unfold boolKey; rw [h]
  rw [lemma_boolT_str, hk]
  by_cases h1 : pyLower s ∈ ts
  · simp [isValidBoolstrT, pyStr, h1]
  · by_cases h2 : pyLower s ∈ fs <;> simp [isValidBoolstrT, pyStr, h1, h2]

/-- on input without surrounding whitespace, is_valid_boolstr holds exactly when strict
    bool_from_string returns a boolean (and fails exactly when it raises ValueError) -/
theorem boolstr_agrees_unpadded (s : List Char) (h : pyStrip s = s) :
    (isValidBoolstr (.str s) = .ok true ↔ ∃ b, boolFromString (.str s) true = .ok (.val b)) ∧
    (isValidBoolstr (.str s) = .ok false ↔ boolFromString (.str s) true = .error .valueError) :=
  boolstr_agrees_unpadded_any_tables _ _ s h

/-- in general it looks up `str(value).lower()` without stripping -/
theorem boolstr_iff (s : List Char) :
    isValidBoolstr (.str s) = .ok (decide (pyLower s ∈ Gen.trueStrings ++ Gen.falseStrings)) := by
  simp [isValidBoolstr, isValidBoolstrT, pyStr]

example : pyStrip ['O', 'N'] = ['O', 'N'] ∧ isValidBoolstr (.str ['O', 'N']) = .ok true := by decide +kernel
/-- padded input is where the two differ (the reason for the hypothesis) -/
example : isValidBoolstr (.str [' ', 'o', 'n']) = .ok false ∧
    boolFromString (.str [' ', 'o', 'n']) true = .ok (.val true) := by decide +kernel

example : boolFromStringT [['e', 'n', 'a', 'b', 'l', 'e', 'd']] [] (.str ['E', 'n', 'a', 'b', 'l', 'e', 'd']) true
      = .ok (.val true) ∧
    isValidBoolstrT [['e', 'n', 'a', 'b', 'l', 'e', 'd']] [] (.str ['E', 'n', 'a', 'b', 'l', 'e', 'd']) = .ok true ∧
    isValidBoolstrT [['e', 'n', 'a', 'b', 'l', 'e', 'd']] [] (.str ['y', 'e', 's']) = .ok false := by decide +kernel

/-- is_valid_boolstr accepts exactly the ASCII casings of the words: a string is accepted iff it
    consists of ASCII characters and, with `A`-`Z` mapped to `a`-`z`, is one of the words.  No
    non-ASCII look-alike (long s, Kelvin sign, ligatures, fullwidth letters …) is accepted. -/
theorem boolstr_accepts_only_ascii_casings (s : List Char) :
    isValidBoolstr (.str s) = .ok true ↔
      (∀ c ∈ s, c.toNat < 128) ∧ s.map lowerChar ∈ Gen.trueStrings ++ Gen.falseStrings := by
  rw [boolstr_iff]
  simp only [Except.ok.injEq, decide_eq_true_eq]
  constructor
  · intro h
    obtain ⟨e, hasc⟩ := lemma_key_ascii s h
    exact ⟨hasc, e ▸ h⟩
  · rintro ⟨hasc, h⟩
    rw [lemma_pyLower_ascii s hasc]
    exact h

/-- the same for bool_from_string: whenever it returns a boolean of its own for a str, the stripped
    text is an ASCII casing of a word -/
theorem bool_recognises_only_ascii_casings (s : List Char) (strict b : Bool)
    (h : boolFromString (.str s) strict = .ok (.val b)) :
    (∀ c ∈ pyStrip s, c.toNat < 128) ∧
      (pyStrip s).map lowerChar ∈ Gen.trueStrings ++ Gen.falseStrings := by
  have hk : boolKey s ∈ Gen.trueStrings ++ Gen.falseStrings := by
    cases b
    · exact List.mem_append.mpr (Or.inr ((bool_false_iff s strict).mp h))
    · exact List.mem_append.mpr (Or.inl ((bool_true_iff s strict).mp h))
  obtain ⟨e, hasc⟩ := lemma_key_ascii (pyStrip s) hk
  exact ⟨hasc, e ▸ hk⟩

/-- non-ASCII look-alikes are not words: `yeſ`, `falſe` (U+017F), `oﬀ` (U+FB00) -/
example : isValidBoolstr (.str ['y', 'e', Char.ofNat 0x17f]) = .ok false ∧
    isValidBoolstr (.str ['o', Char.ofNat 0xfb00]) = .ok false ∧
    isValidBoolstr (.str ['Y', 'E', 'S']) = .ok true ∧
    boolFromString (.str ['f', 'a', 'l', Char.ofNat 0x17f, 'e']) true = .error .valueError := by
  decide +kernel

/-- `str(int(val)) == str(val)`, for any value -/
theorem lemma_intlike_iff (v : PyVal) :
    isIntLike v = true ↔
      ∃ n, pyInt v = .ok n ∧ overLimit (numDigits n) = false ∧ pyStr v = .ok (render n) := by
  unfold isIntLike
  cases pyInt v with
  | error e => simp
  | ok n =>
    cases ho : overLimit (numDigits n) with
    | true => simp [pyStrInt, ho]
    | false =>
      cases pyStr v with
      | error e => simp [pyStrInt, ho]
      | ok b => simp [pyStrInt, ho]; exact eq_comm

/-- for every string: int-like exactly when it is the canonical rendering of an integer
    (that CPython can convert: at most `Gen.maxStrDigits` digits) -/
theorem intlike_iff_canonical (s : List Char) :
    isIntLike (.str s) = true ↔ ∃ n : Int, s = render n ∧ overLimit (numDigits n) = false := by
  rw [lemma_intlike_iff]
  constructor
  · rintro ⟨n, _, ho, hs⟩
    exact ⟨n, by simpa [pyStr] using hs, ho⟩
  · rintro ⟨n, rfl, ho⟩
    exact ⟨n, by simp [pyInt, lemma_parse_render, ho], ho, rfl⟩

/-- an int is int-like (within the conversion limit) -/
theorem intlike_of_int (n : Int) : isIntLike (.int n) = !overLimit (numDigits n) := by
  cases ho : overLimit (numDigits n) <;> simp [isIntLike, pyInt, pyStr, pyStrInt, ho]

/-- a bool never is: `str(int(True))` is `1`, not `True` -/
theorem intlike_of_bool (b : Bool) : isIntLike (.bool b) = false := by
  cases b <;> decide +kernel

/-- any other object is int-like only if `int(obj)` succeeds and `str(obj)` is its rendering -/
theorem intlike_of_other (t : List Char) (r : Except ErrKind Int) :
    isIntLike (.other t r) = true ↔ ∃ n, r = .ok n ∧ overLimit (numDigits n) = false ∧ t = render n := by
  simp [lemma_intlike_iff, pyInt, pyStr]

/-- known finding C14-F2, as a theorem about the model: beyond the digit limit the canonical
    rendering of an integer, and the integer itself, are *not* int-like -/
theorem intlike_beyond_limit (n : Int) (h : overLimit (numDigits n) = true) :
    isIntLike (.str (render n)) = false ∧ isIntLike (.int n) = false := by
  constructor
  · simp [isIntLike, pyInt, lemma_parse_render, h]
  · simp [intlike_of_int, h]

example : isIntLike (.str ['-', '4', '2']) = true ∧ isIntLike (.str ['+', '4', '2']) = false ∧
    isIntLike (.str ['0', '7']) = false ∧ isIntLike (.str ['-', '0']) = false ∧
    isIntLike (.str ['1', '_', '0']) = false ∧ isIntLike (.str [' ', '1']) = false := by decide +kernel

/-- A base-10 integer literal as `int()` reads a str, and its value: after the ASCII transform
    (Unicode whitespace -> space, Unicode decimal digits -> `0`-`9`), the text is
    whitespace, an optional sign, groups of decimal digits joined by single underscores, whitespace —
    with at most `Gen.maxStrDigits` digits (CPython's conversion limit). -/
def IntLiteral (s : List Char) (n : Int) : Prop :=
  ∃ pre sign body post,
    s.map intAscii = pre ++ sign ++ body ++ post ∧
    (∀ c ∈ pre, isIntSpace c = true) ∧ (∀ c ∈ post, isIntSpace c = true) ∧
    (sign = [] ∨ sign = ['+'] ∨ sign = ['-']) ∧ DigitGroups body ∧
    overLimit (digitCount body) = false ∧
    n = if sign = ['-'] then -(decValue body : Int) else (decValue body : Int)

/-- the parser of the model accepts exactly the integer literals, with their value -/
theorem int_literal_iff (s : List Char) (n : Int) : pyIntParse 10 s = some n ↔ IntLiteral s n := by
  unfold pyIntParse IntLiteral
  constructor
  · intro h
    obtain ⟨pre, sign, body, post, e, hpre, hpost, hsign, hb, hok, hlim, hn⟩ :=
      lemma_literal_of_parse _ n h
    have hg := (lemma_groups_iff body).mp ⟨hb, hok⟩
    refine ⟨pre, sign, body, post, e, hpre, hpost, hsign, hg, hlim, ?_⟩
    rw [hn, lemma_value_dec body hg.2.1]
    rfl
  · rintro ⟨pre, sign, body, post, e, hpre, hpost, hsign, hg, hlim, hn⟩
    obtain ⟨hb, hok⟩ := (lemma_groups_iff body).mpr hg
    rw [e, lemma_parse_literal 10 pre sign body post hpre hpost hsign hb hok (by simp),
      if_neg (by simp [hlim]), hn, lemma_value_dec body hg.2.1]
    rfl

example : IntLiteral [' ', '+', '1', '_', '0', '\n'] 10 :=
  (int_literal_iff _ _).mp (by decide +kernel)
example : ¬ IntLiteral ['1', '_', '_', '0'] 10 := fun h => by
  have := (int_literal_iff _ _).mpr h
  revert this; decide +kernel

/-- `int(str(value))` as the model reads it -/
def intOfStrOf (v : PyVal) : Option Int :=
  match pyStr v with
  | .ok t => pyIntParse 10 t
  | .error _ => none

/-- `n` is not below the bound: exact rational comparison `p/q ≤ n` for a finite bound (any int, bool,
    float, Decimal, Fraction), nothing is below `-inf` or a float NaN, everything is below `+inf`.
    (A Decimal NaN cannot be compared at all.) -/
def MinAllows (n : Int) : Bound → Prop
  | .fin p q => p ≤ n * q
  | .posInf => False
  | .negInf => True
  | .nan => True
  | .decNan => False

/-- `n` is not above the bound: `n ≤ p/q` exactly -/
def MaxAllows (n : Int) : Bound → Prop
  | .fin p q => n * q ≤ p
  | .posInf => True
  | .negInf => False
  | .nan => True
  | .decNan => False

/-- an int, bool, finite float / Decimal, Fraction, or a float NaN: the bounds on which the code can
    only answer by returning or by ValueError -/
def Bound.plain : Bound → Bool
  | .fin _ _ => true
  | .nan => true
  | _ => false

/-- the bound lets `n` through exactly when the code's comparison answers False -/
theorem lemma_minAllows_iff (n : Int) (l : Bound) : MinAllows n l ↔ intLtBound n l = .ok false := by
  cases l <;> simp [MinAllows, intLtBound]

theorem lemma_maxAllows_iff (n : Int) (u : Bound) : MaxAllows n u ↔ intGtBound n u = .ok false := by
  cases u <;> simp [MaxAllows, intGtBound]

theorem lemma_rejectD_ne_ok (b : Bound) (m : Int) : rejectD b ≠ .ok m := by
  cases b <;> simp [rejectD]

theorem lemma_plain_bound (b : Bound) (h : b.plain = true) (n : Int) :
    (∃ r, intLtBound n b = .ok r) ∧ (∃ r, intGtBound n b = .ok r) ∧ rejectD b = .error .valueError := by
  cases b <;> simp [Bound.plain] at h <;> simp [intLtBound, intGtBound, rejectD]

theorem lemma_cmp_error (n : Int) (b : Bound) (e : ErrKind)
    (h : intLtBound n b = .error e ∨ intGtBound n b = .error e) : e = .invalidOperation ∧ b = .decNan := by
  cases b <;> simp [intLtBound, intGtBound] at h ⊢
  exact h.symm

theorem lemma_checkMax_iff (n m : Int) (hi : Option Bound) :
    checkMax n hi = .ok m ↔ n = m ∧ ∀ u, hi = some u → MaxAllows n u := by
  cases hi with
  | none => simp [checkMax]
  | some u =>
    simp only [checkMax, lemma_maxAllows_iff, Option.some.injEq, forall_eq']
    cases intGtBound n u with
    | error e => simp
    | ok r => cases r <;> simp [lemma_rejectD_ne_ok]

theorem lemma_checkMinMax_iff (n m : Int) (lo hi : Option Bound) :
    checkMinMax n lo hi = .ok m ↔
      n = m ∧ (∀ l, lo = some l → MinAllows n l) ∧ (∀ u, hi = some u → MaxAllows n u) := by
  cases lo with
  | none => simp [checkMinMax, lemma_checkMax_iff]
  | some l =>
    simp only [checkMinMax, lemma_minAllows_iff, Option.some.injEq, forall_eq']
    cases intLtBound n l with
    | error e => simp
    | ok r => cases r <;> simp [lemma_rejectD_ne_ok, lemma_checkMax_iff]

/-- returns `n` exactly when `str(value)` is read by `int()` as `n` (see `validate_integer_str_iff`
    for what that means for a str) and `n` is within the bounds that are set — bounds of any numeric
    type, compared exactly (`min_value = 7.5` excludes 7, `max_value = Decimal('-6.5')` excludes -6) -/
theorem validate_integer_iff (v : PyVal) (lo hi : Option Bound) (n : Int) :
    validateInteger v lo hi = .ok n ↔
      intOfStrOf v = some n ∧ (∀ l, lo = some l → MinAllows n l) ∧ (∀ u, hi = some u → MaxAllows n u) := by
  unfold validateInteger intOfStrOf
  cases hs : pyStr v with
  | error e => simp
  | ok t =>
    simp only []
    cases hp : pyIntParse 10 t with
    | none => simp
    | some m =>
      simp only [lemma_checkMinMax_iff, Option.some.injEq]
      exact and_congr_right fun h => h ▸ Iff.rfl

/-- for a str: returns `n` exactly when the text is an integer literal of value `n` within the bounds -/
theorem validate_integer_str_iff (s : List Char) (lo hi : Option Bound) (n : Int) :
    validateInteger (.str s) lo hi = .ok n ↔
      IntLiteral s n ∧ (∀ l, lo = some l → MinAllows n l) ∧ (∀ u, hi = some u → MaxAllows n u) := by
  rw [validate_integer_iff, ← int_literal_iff]
  simp [intOfStrOf, pyStr]

theorem lemma_checkMax_else (n : Int) (hi : Option Bound) (h : ∀ u, hi = some u → u.plain = true) :
    (∃ m, checkMax n hi = .ok m) ∨ checkMax n hi = .error .valueError := by
  cases hi with
  | none => simp [checkMax]
  | some u =>
    obtain ⟨_, ⟨r, hr⟩, hd⟩ := lemma_plain_bound u (h u rfl) n
    cases r <;> simp [checkMax, hr, hd]

theorem lemma_checkMinMax_else (n : Int) (lo hi : Option Bound)
    (hlo : ∀ l, lo = some l → l.plain = true) (hhi : ∀ u, hi = some u → u.plain = true) :
    (∃ m, checkMinMax n lo hi = .ok m) ∨ checkMinMax n lo hi = .error .valueError := by
  cases lo with
  | none => exact lemma_checkMax_else n hi hhi
  | some l =>
    obtain ⟨⟨r, hr⟩, _, hd⟩ := lemma_plain_bound l (hlo l rfl) n
    cases r
    · simpa [checkMinMax, hr] using lemma_checkMax_else n hi hhi
    · simp [checkMinMax, hr, hd]

/-- … and in every other case it raises ValueError, never another exception.
    PARTIAL: proved for bounds that are None, finite numbers or a float NaN.  What is missing: an
    infinite bound that excludes the value makes the code raise OverflowError (the `%d` of the message,
    finding C14-F3, see `validate_integer_infinite_bound`), a Decimal NaN bound raises
    decimal.InvalidOperation. -/
theorem validate_integer_else_partial (v : PyVal) (lo hi : Option Bound)
    (hlo : ∀ l, lo = some l → l.plain = true) (hhi : ∀ u, hi = some u → u.plain = true) :
    (∃ n, validateInteger v lo hi = .ok n) ∨ validateInteger v lo hi = .error .valueError := by
  unfold validateInteger
  cases pyStr v with
  | error e => simp
  | ok t =>
    simp only []
    cases pyIntParse 10 t with
    | none => simp
    | some n => exact lemma_checkMinMax_else n lo hi hlo hhi

/-- finding C14-F3 as a theorem about the model: with `min_value = +inf` (or `max_value = -inf`) every
    integer is out of range, and the code raises OverflowError instead of ValueError -/
theorem validate_integer_infinite_bound (n : Int) (h : overLimit (numDigits n) = false) :
    validateInteger (.int n) (some .posInf) none = .error .overflowError ∧
    validateInteger (.int n) none (some .negInf) = .error .overflowError := by
  simp [validateInteger, pyStr, pyStrInt, h, lemma_parse_render, checkMinMax, checkMax,
    intLtBound, intGtBound, rejectD]

/-- integers given as int or in canonical str form: accepted exactly within the bounds -/
theorem validate_integer_canonical (n : Int) (lo hi : Option Bound) (h : overLimit (numDigits n) = false) :
    validateInteger (.int n) lo hi = validateInteger (.str (render n)) lo hi ∧
    (validateInteger (.str (render n)) lo hi = .ok n ↔
      (∀ l, lo = some l → MinAllows n l) ∧ (∀ u, hi = some u → MaxAllows n u)) := by
  constructor
  · simp [validateInteger, pyStr, pyStrInt, h]
  · rw [validate_integer_iff]
    simp [intOfStrOf, pyStr, lemma_parse_render, h]

example : validateInteger (.str [' ', '+', '1', '_', '0', '\n']) (some (.fin 10 1)) (some (.fin 10 1)) = .ok 10 := by
  decide +kernel
example : validateInteger (.str ['9']) (some (.fin 10 1)) none = .error .valueError := by decide +kernel
example : validateInteger (.bool true) none none = .error .valueError := by decide +kernel
/-- non-integral bounds are compared exactly: 7 < 7.5, -6 > -6.5, 0 < 1e-6 -/
example : validateInteger (.int 7) (some (.fin 15 2)) none = .error .valueError ∧
    validateInteger (.int 8) (some (.fin 15 2)) none = .ok 8 ∧
    validateInteger (.str ['-', '6']) none (some (.fin (-13) 2)) = .error .valueError ∧
    validateInteger (.int 0) (some (.fin 1 1000000)) none = .error .valueError ∧
    validateInteger (.int 5) (some .nan) (some .nan) = .ok 5 := by decide +kernel

theorem lemma_checkMaxLength_iff (len : Int) (hi : Option Bound) :
    checkMaxLength len hi = .ok () ↔ ∀ m, hi = some m → boundFalsy m = true ∨ MaxAllows len m := by
  cases hi with
  | none => simp [checkMaxLength]
  | some m =>
    simp only [checkMaxLength, lemma_maxAllows_iff, Option.some.injEq, forall_eq']
    cases boundFalsy m
    · cases intGtBound len m with
      | error e => simp
      | ok r => cases r <;> simp
    · simp

theorem lemma_checkMaxLength_else (len : Int) (hi : Option Bound) :
    checkMaxLength len hi = .ok () ∨ checkMaxLength len hi = .error .valueError ∨
      (checkMaxLength len hi = .error .invalidOperation ∧ hi = some .decNan) := by
  cases hi with
  | none => simp [checkMaxLength]
  | some m =>
    simp only [checkMaxLength]
    cases boundFalsy m
    · cases h : intGtBound len m with
      | error e => obtain ⟨rfl, rfl⟩ := lemma_cmp_error len m e (Or.inr h); simp
      | ok r => cases r <;> simp
    · simp

/-- a str passes exactly when `min_length ≤ len` and (`max_length` is None or falsy (0, 0.0), or
    `len ≤ max_length`), bounds of any numeric type compared exactly -/
theorem string_length_iff (s : List Char) (lo : Bound) (hi : Option Bound) :
    checkStringLength (.str s) lo hi = .ok () ↔
      MinAllows s.length lo ∧ (∀ m, hi = some m → boundFalsy m = true ∨ MaxAllows s.length m) := by
  simp only [checkStringLength, Int.ofNat_eq_natCast, lemma_minAllows_iff]
  cases intLtBound (s.length : Int) lo with
  | error e => simp
  | ok r => cases r <;> simp [lemma_checkMaxLength_iff]

/-- a str that does not pass raises ValueError (decimal.InvalidOperation only if a bound is a Decimal
    NaN); a non-str raises TypeError -/
theorem string_length_else (v : PyVal) (lo : Bound) (hi : Option Bound) :
    (∀ s, v = .str s →
      checkStringLength v lo hi = .ok () ∨ checkStringLength v lo hi = .error .valueError ∨
      (checkStringLength v lo hi = .error .invalidOperation ∧ (lo = .decNan ∨ hi = some .decNan))) ∧
    ((∀ s, v ≠ .str s) → checkStringLength v lo hi = .error .typeError) := by
  constructor
  · rintro s rfl
    simp only [checkStringLength, Int.ofNat_eq_natCast]
    cases h : intLtBound (s.length : Int) lo with
    | error e => obtain ⟨rfl, rfl⟩ := lemma_cmp_error _ lo e (Or.inl h); simp
    | ok r =>
      cases r
      · exact (lemma_checkMaxLength_else (s.length : Int) hi).imp_right (Or.imp_right (And.imp_right Or.inr))
      · simp
  · intro h
    cases v with
    | str s => exact absurd rfl (h s)
    | _ => rfl

example : checkStringLength (.str ['a', 'b', 'c']) (.fin 3 1) (some (.fin 3 1)) = .ok () ∧
    checkStringLength (.str ['a', 'b', 'c']) (.fin 4 1) none = .error .valueError ∧
    checkStringLength (.str ['a', 'b', 'c']) (.fin 0 1) (some (.fin 2 1)) = .error .valueError ∧
    checkStringLength (.str ['a', 'b', 'c']) (.fin 0 1) (some (.fin 0 1)) = .ok () ∧
    checkStringLength (.str ['a', 'b', 'c']) (.fin 7 2) none = .error .valueError ∧
    checkStringLength (.str ['a', 'b', 'c']) (.fin 0 1) (some (.fin 5 2)) = .error .valueError ∧
    checkStringLength (.int 3) (.fin 0 1) none = .error .typeError := by decide +kernel

/-- exact classification of every string: UUID-like iff, decoration removed
    (`urn:`, `uuid:`, outer braces, hyphens), it is 32 hex digits -/
theorem uuid_iff_32hex (s : List Char) : isUuidLike (.str s) = true ↔ IsHex32 (uuidUndecorate s) := by
  unfold IsHex32
  constructor
  · intro h
    simp only [isUuidLike] at h
    cases hu : uuidOfHex s with
    | error e => simp [hu] at h
    | ok n =>
      -- the rendering of the value has 32 lower-case hex digits, and it is the lowered text
      simp only [hu, beq_iff_eq, lemma_removeHyphens_uuidStr] at h
      obtain ⟨_, hlen, hhex⟩ := lemma_pyLower_hex (uuidUndecorate s)
        (fun x hx => lemma_hexFixed_chars 32 n x (by rw [h]; exact hx))
      refine ⟨?_, hhex⟩
      rw [← hlen, ← h, lemma_hexFixed_length]
  · rintro ⟨hl, hh⟩
    have hne : uuidUndecorate s ≠ [] := by
      intro e; rw [e] at hl; simp at hl
    obtain ⟨hlt, hfix⟩ := lemma_hex_value _ hh
    rw [hl] at hlt hfix
    have h128 : (16 : Nat) ^ 32 = 2 ^ 128 := by decide
    rw [h128] at hlt
    have hrange : (0 : Int) ≤ (bodyValue 16 (uuidUndecorate s) : Int) ∧
        (bodyValue 16 (uuidUndecorate s) : Int) < 2 ^ 128 := by
      constructor <;> omega
    simp only [isUuidLike, uuidOfHex, hl, ne_eq, not_true_eq_false, if_false,
      lemma_parse_hex _ hne hh, lemma_removeHyphens_uuidStr, Int.ofNat_eq_natCast, Int.toNat_natCast]
    rw [if_pos hrange]
    simp only [beq_iff_eq]
    exact hfix

/-- rejects everything that, decoration removed, is not 32 hex digits — and every non-str -/
theorem uuid_rejects_non32hex (v : PyVal) (h : isUuidLike v = true) :
    ∃ s, v = .str s ∧ IsHex32 (uuidUndecorate s) := by
  cases v with
  | str s => exact ⟨s, rfl, (uuid_iff_32hex s).mp h⟩
  | _ => simp [isUuidLike] at h

theorem lemma_hyphenate_chars (h : List Char) (c : Char) (hc : c ∈ hyphenate h) : c ∈ h ∨ c = '-' := by
  by_cases e : c = '-'
  · exact Or.inr e
  · -- a character other than the hyphen survives `removeHyphens`, which gives the same on `h`
    have : c ∈ removeHyphens (hyphenate h) := List.mem_filter.mpr ⟨hc, by simpa using e⟩
    rw [lemma_removeHyphens_hyphenate] at this
    exact Or.inl (List.mem_filter.mp this).1

theorem lemma_undecorate_spell (d : Spelling) (h : List Char) (hh : ∀ c ∈ h, c ∈ hexChars) :
    uuidUndecorate (spell d h) = h := by
  have hplain : ∀ c ∈ h, c ≠ 'u' ∧ isBrace c = false := fun c hc =>
    (lemma_hex_char_facts c (hh c hc)).undecorated
  have hyp : ∀ c ∈ hyphenate h, c ≠ 'u' ∧ isBrace c = false := by
    intro c hc
    rcases lemma_hyphenate_chars h c hc with hc | rfl
    · exact hplain c hc
    · decide
  have hnoh : '-' ∉ h := fun hm => (lemma_hex_char_facts _ (hh _ hm)).hyphen rfl
  have hfin : removeHyphens (hyphenate h) = h := by
    rw [lemma_removeHyphens_hyphenate, lemma_removeHyphens_id _ hnoh]
  cases d with
  | plain => rw [spell, lemma_undecorate_plain h hplain, lemma_removeHyphens_id _ hnoh]
  | hyphenated => rw [spell, lemma_undecorate_plain _ hyp, hfin]
  | braced => rw [spell, lemma_undecorate_braced ['{'] _ ['}'] (by decide) (by decide) hyp, hfin]
  | urn =>
    have hnou : 'u' ∉ hyphenate h := fun hm => (hyp _ hm).1 rfl
    have e : removeUuid (removeUrn (spell .urn h)) = hyphenate h := by
      simp [spell, removeUrn, removeUuid, lemma_removeUrn_id _ hnou, lemma_removeUuid_id _ hnou]
    rw [uuidUndecorate, e, lemma_strip_none _ _ (fun c hc => (hyp c hc).2), hfin]

/-- every 32-hex-digit string (hence every 128-bit value in every letter case) is accepted in
    plain, hyphenated, braced and urn:uuid: spelling -/
theorem uuid_accepts_all_spellings (d : Spelling) (h : List Char) (hh : IsHex32 h) :
    isUuidLike (.str (spell d h)) = true := by
  rw [uuid_iff_32hex, lemma_undecorate_spell d h hh.2]
  exact hh

/-- the same, stated over the 128-bit value: any casing `h` of the 32-digit rendering of any
    `n < 2^128` (`h.lower() = '%032x' % n`), in any spelling — in particular `str(uuid4())`, which is
    `spell .hyphenated (hexFixed 32 n)`, and `uuid4().hex` -/
theorem uuid_accepts_every_value (n : Nat) (d : Spelling) (h : List Char)
    (hcase : pyLower h = hexFixed 32 n) : isUuidLike (.str (spell d h)) = true := by
  apply uuid_accepts_all_spellings
  obtain ⟨_, hlen, hhex⟩ := lemma_pyLower_hex h
    (fun x hx => lemma_hexFixed_chars 32 n x (by rw [← hcase]; exact hx))
  refine ⟨?_, hhex⟩
  rw [← hlen, hcase, lemma_hexFixed_length]

example : isUuidLike (.str (spell .urn (hexFixed 32 0x12345678123456781234567812345678))) = true :=
  uuid_accepts_every_value 0x12345678123456781234567812345678 .urn _ (lemma_pyLower_hexFixed 32 _)
example : IsHex32 (hexFixed 32 (2 ^ 128 - 1)) :=
  ⟨lemma_hexFixed_length _ _, fun c hc => (lemma_lowerHex_facts c (lemma_hexFixed_chars _ _ c hc)).hex⟩
example : isUuidLike (.str ['{', '1', '2', '}']) = false := by decide +kernel

end Oslo.Scalars
