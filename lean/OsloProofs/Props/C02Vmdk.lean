/-
C02 for VMDK, over the *stream*: in sparse-header mode the safety check returns normally exactly
for streams whose descriptor is at sector 1, completely present, decodable, of a sparse createType,
made only of recognised lines with at least one extent and no extent naming a path, and whose
footer (when announced) is present and consistent with the header — under every chunking.
Obtained by composing C01-7 (`vmdk_chunk_independent_partial`) with the per-check characterisations.
-/
import OsloProofs.Props.C07Vmdk
namespace Oslo.Insp

/-- what `check_descriptor` requires of the decoded descriptor text `t` and its createType `ty` -/
def DescSafe (t ty : Bytes) : Prop :=
  t ≠ [] ∧ ty ∈ sparseTypes ∧
  (∀ l ∈ (splitOn 0x0a t).map strip, classifyLine l ≠ .bad) ∧
  (∃ l ∈ (splitOn 0x0a t).map strip, classifyLine l = .extent) ∧
  (∀ l ∈ (splitOn 0x0a t).map strip, classifyLine l = .extent → l.contains 0x2f = false)

theorem lemma_checkDescOn_iff (t ty : Bytes) : checkDescOn (some t) ty = true ↔ DescSafe t ty := by
  simp only [checkDescOn, DescSafe]
  -- each guard `if g then false else …` becomes a conjunct `¬g`; `simp` brings both sides to the same terms
  simp
  -- the first three (text non-empty, sparse createType, no bad line) then agree literally …
  intro _hne _hty _hbad
  -- … and the two about extents differ only in their order and in `∃ l ∈ map strip _` being unfolded
  constructor
  · rintro ⟨h, x, hx, he⟩
    exact ⟨⟨_, ⟨x, hx, rfl⟩, he⟩, h⟩
  · rintro ⟨⟨_, ⟨x, hx, rfl⟩, he⟩, h⟩
    exact ⟨h, x, hx, he⟩


/-- what `check_footer` requires of the last 1536 bytes `fd` (footer marker sector, header copy,
    end-of-stream marker sector) given the header fields `H` -/
def FooterSafe (H : SparseHeader) (fd : Bytes) : Prop :=
  ∃ fh, parseSparseHeader fd 512 = .ok fh ∧
    H.sig = fh.sig ∧ H.ver = fh.ver ∧ H.descSec = fh.descSec ∧ H.descNum = fh.descNum ∧
    fh.gdOffset ≠ Gen.vmdkGdAtEnd ∧
    (slice fd 0 512).length = 512 ∧
    leNat (slice (slice fd 0 512) 8 12) = 0 ∧ leNat (slice (slice fd 0 512) 12 16) = Gen.vmdkMarkerFooter ∧
    slice (slice fd 0 512) 16 512 = zeros 496 ∧
    (lastN 512 fd).length = 512 ∧
    leNat (slice (lastN 512 fd) 0 8) = 0 ∧ leNat (slice (lastN 512 fd) 8 12) = 0 ∧
    leNat (slice (lastN 512 fd) 12 16) = Gen.vmdkMarkerEos ∧ slice (lastN 512 fd) 16 512 = zeros 496

theorem lemma_footerCheckH_iff (H : SparseHeader) (fd : Bytes) :
    footerCheckH H fd = .ok true ↔ FooterSafe H fd := by
  unfold footerCheckH FooterSafe
  simp only [bind, Except.bind, pure, Except.pure, throw, throwThe, MonadExceptOf.throw]
  cases parseSparseHeader fd 512 with
  | error e => simp
  | ok fh =>
    simp only [lemma_guard_false, lemma_guard_throw]
    simp [and_assoc]


theorem lemma_safetyOn_ok_iff (c foot cd : Bool) (cf : CheckRes) :
    safetyOn c foot cd cf = .ok ↔ c = true ∧ cd = true ∧ (foot = true → cf = .pass) := by
  cases c <;> cases foot <;> cases cd <;> cases cf <;> simp [safetyOn]

/-- **the acceptance condition on the stream** (sparse-header mode) -/
def VmdkSafe (s : Bytes) : Prop :=
  (hdrOf s).descSec * 512 = Gen.vmdkDescOffset ∧
  512 + vmdkDescLen s ≤ s.length ∧
  (∃ t ty, parseDesc (sliceOf s 512 (vmdkDescLen s)) = some (t, ty) ∧ DescSafe t ty) ∧
  ((hdrOf s).gdOffset = Gen.vmdkGdAtEnd → 1536 ≤ s.length ∧ FooterSafe (hdrOf s) (lastN 1536 s))

theorem lemma_specVmdk_safety_iff (s : Bytes) : (specVmdk s).safety = .ok ↔ VmdkSafe s := by
  unfold specVmdk VmdkSafe vmdkDescLen
  simp only
  generalize hdrOf s = H
  by_cases hds : H.descSec * 512 = Gen.vmdkDescOffset
  case neg =>
    rw [if_pos hds]
    simp only [hds, false_and, iff_false]
    split <;> simp
  rw [if_neg (by simpa using hds)]
  simp only [lemma_safetyOn_ok_iff, lemma_ofExcept_pass, lemma_footerCheckH_iff, hds, true_and]
  generalize hdl : min (H.descNum * 512) Gen.vmdkDescMaxSize = dl
  by_cases hc : dl = (sliceOf s 512 dl).length
  case neg =>
    rw [if_neg hc]
    have hlen : ¬ (512 + dl ≤ s.length) := by
      intro h
      exact hc (lemma_sliceOf_length_of_le s 512 dl h)
    simp [hlen, lemma_checkDescOn_fnf]
  rw [if_pos hc]
  have hcd : decide (dl = (sliceOf s 512 dl).length) = true := decide_eq_true hc
  by_cases hlen : 512 + dl ≤ s.length
  case neg =>
    -- the corner case |s| < 512 and a zero-length descriptor: complete, but the empty text is never accepted
    have hl := hc
    rw [lemma_sliceOf_length] at hl
    have hnil : sliceOf s 512 dl = [] := lemma_sliceOf_nil s 512 dl (by omega)
    rw [hnil, lemma_parseDesc_nil]
    simp [hlen, lemma_checkDescOn_fnf]
  cases hp : parseDesc (sliceOf s 512 dl) with
  | none =>
    simp [lemma_checkDescOn_fnf]
  | some x =>
    obtain ⟨t, ty⟩ := x
    simp only [Option.map_some, Option.getD_some, lemma_checkDescOn_iff, hcd, Bool.and_true, Bool.or_eq_true,
      Bool.not_eq_true', decide_eq_false_iff_not, decide_eq_true_eq, hlen, true_and, Option.some.injEq,
      Prod.mk.injEq]
    constructor
    · rintro ⟨hfc, hd, hf⟩
      refine ⟨⟨t, ty, ⟨rfl, rfl⟩, hd⟩, fun hg => ⟨?_, hf hg⟩⟩
      rcases hfc with h | h
      · exact absurd hg h
      · exact h
    · rintro ⟨⟨t', ty', ⟨rfl, rfl⟩, hd⟩, hf⟩
      refine ⟨?_, hd, fun hg => (hf hg).2⟩
      by_cases hg : H.gdOffset = Gen.vmdkGdAtEnd
      · exact Or.inr (hf hg).1
      · exact Or.inl hg


/-- **vmdk_accept_iff_sparse_partial** — for every sparse-header stream and every chunking of it, the
    VMDK safety check returns normally **iff** the descriptor is at sector 1, completely present in
    the stream, decodable, its createType is monolithicSparse/streamOptimized, every line is blank, a
    comment, a `ddb` line, a header field or an extent line, there is at least one extent line and none
    names a path, and — when the header announces a footer — the stream ends in a footer marker, a
    header copy with the same signature/version/descriptor location that does not point to yet another
    footer, and an end-of-stream marker.
    Missing (hypothesis `VmdkSparse`): text-descriptor mode and the other streams of known finding
    KF_F1, where acceptance depends on the chunking, and the footer window of KF_F3. -/
theorem vmdk_accept_iff_sparse_partial (s0 : Insp) (h0 : Insp.init .vmdk = some s0) (chunks : List Bytes)
    (hs : VmdkSparse chunks.flatten) :
    safetyCheck (runChunks s0 chunks).1 = .ok ↔ VmdkSafe chunks.flatten := by
  have hv := congrArg Verdict.safety (vmdk_chunk_independent_partial s0 h0 chunks hs)
  have hl : safetyCheck (runChunks s0 chunks).1 = (verdict (runChunks s0 chunks)).safety := rfl
  rw [hl, hv]
  exact lemma_specVmdk_safety_iff _

/-- **vmdk_accept_imp_partial** (planned theorem C02-3) — the stream-level form of `vmdk_accept_imp`
    of C02More: if the safety check returns normally after *any* chunking of a sparse-header stream, then
    what the inspector parsed (`desc_text`, `vmdktype`) **is** the decoding of the stream's bytes at
    sector 1 (all `descNum` sectors of them, present in the stream), and it has the properties
    `vmdk_accept_imp` lists: non-empty, sparse createType, only recognised lines, at least one
    extent, no extent naming a path.
    Missing: as for `vmdk_accept_iff_sparse_partial` (hypothesis `VmdkSparse`). -/
theorem vmdk_accept_imp_partial (s0 : Insp) (h0 : Insp.init .vmdk = some s0) (chunks : List Bytes)
    (hs : VmdkSparse chunks.flatten) (h : safetyCheck (runChunks s0 chunks).1 = .ok) :
    (hdrOf chunks.flatten).descSec * 512 = Gen.vmdkDescOffset ∧
    512 + vmdkDescLen chunks.flatten ≤ chunks.flatten.length ∧
    ∃ t, (runChunks s0 chunks).1.descText = some t ∧
      parseDesc (sliceOf chunks.flatten 512 (vmdkDescLen chunks.flatten)) =
        some (t, (runChunks s0 chunks).1.vmdkType) ∧
      t ≠ [] ∧ (runChunks s0 chunks).1.vmdkType ∈ sparseTypes ∧
      (∀ l ∈ (splitOn 0x0a t).map strip, classifyLine l ≠ .bad) ∧
      (∃ l ∈ (splitOn 0x0a t).map strip, classifyLine l = .extent) ∧
      (∀ l ∈ (splitOn 0x0a t).map strip, classifyLine l = .extent → l.contains 0x2f = false) := by
  obtain ⟨hds, hlen, ⟨t, ty, hp, hsafe⟩, _⟩ := (vmdk_accept_iff_sparse_partial s0 h0 chunks hs).mp h
  have hout := lemma_vmdk_outcome s0 h0 chunks hs.1 ⟨hs.2.1, hs.2.2.1⟩
  rcases hout with ⟨_, hd, fo, fd, dt, vt, hr, _, _, _, hst⟩ | ⟨hne, _⟩
  · -- the C01 invariant: once the descriptor region is full, what the inspector holds is its parse
    unfold vmdkDescLen at hlen hp
    rw [DescSt, if_pos (lemma_sliceOf_length_of_le _ 512 _ hlen), hp] at hst
    obtain ⟨rfl, rfl⟩ := hst
    have e : (runChunks s0 chunks).1 = (feed s0 chunks).1.finish := rfl
    rw [e, hr]
    exact ⟨hds, hlen, t, rfl, hp, hsafe⟩
  · exact absurd hds hne

/-! ### consequences: what is never accepted (every chunking) -/

theorem lemma_vmdk_rejects (s0 : Insp) (h0 : Insp.init .vmdk = some s0) (chunks : List Bytes)
    (hs : VmdkSparse chunks.flatten) (h : ¬ VmdkSafe chunks.flatten) :
    safetyCheck (runChunks s0 chunks).1 ≠ .ok :=
  mt (vmdk_accept_iff_sparse_partial s0 h0 chunks hs).mp h

theorem lemma_vmdkSafe_desc {s t ty : Bytes} (hsafe : VmdkSafe s)
    (hp : parseDesc (sliceOf s 512 (vmdkDescLen s)) = some (t, ty)) : DescSafe t ty := by
  obtain ⟨_, _, ⟨t', ty', hp', hd⟩, _⟩ := hsafe
  rw [hp] at hp'
  cases hp'
  exact hd

/-- a descriptor that is not at sector 1 -/
theorem vmdk_rejects_misplaced_descriptor_partial (s0 : Insp) (h0 : Insp.init .vmdk = some s0)
    (chunks : List Bytes) (hs : VmdkSparse chunks.flatten)
    (h : (hdrOf chunks.flatten).descSec * 512 ≠ Gen.vmdkDescOffset) :
    safetyCheck (runChunks s0 chunks).1 ≠ .ok :=
  lemma_vmdk_rejects s0 h0 chunks hs fun hsafe => h hsafe.1

/-- a stream that ends before the end of the announced descriptor (missing / truncated descriptor) -/
theorem vmdk_rejects_truncated_descriptor_partial (s0 : Insp) (h0 : Insp.init .vmdk = some s0)
    (chunks : List Bytes) (hs : VmdkSparse chunks.flatten)
    (h : chunks.flatten.length < 512 + vmdkDescLen chunks.flatten) :
    safetyCheck (runChunks s0 chunks).1 ≠ .ok :=
  lemma_vmdk_rejects s0 h0 chunks hs fun hsafe => Nat.not_le_of_lt h hsafe.2.1

/-- a descriptor that does not decode (non-ASCII bytes before the first NUL) -/
theorem vmdk_rejects_undecodable_descriptor_partial (s0 : Insp) (h0 : Insp.init .vmdk = some s0)
    (chunks : List Bytes) (hs : VmdkSparse chunks.flatten)
    (h : parseDesc (sliceOf chunks.flatten 512 (vmdkDescLen chunks.flatten)) = none) :
    safetyCheck (runChunks s0 chunks).1 ≠ .ok := by
  refine lemma_vmdk_rejects s0 h0 chunks hs ?_
  rintro ⟨_, _, ⟨t, ty, hp, _⟩, _⟩
  rw [h] at hp
  cases hp

/-- a createType other than monolithicSparse / streamOptimized (any spelling that does not lower-case
    to one of them, including a missing or over-long one) -/
theorem vmdk_rejects_createtype_partial (s0 : Insp) (h0 : Insp.init .vmdk = some s0)
    (chunks : List Bytes) (hs : VmdkSparse chunks.flatten) (t ty : Bytes)
    (hp : parseDesc (sliceOf chunks.flatten 512 (vmdkDescLen chunks.flatten)) = some (t, ty))
    (h : ty ∉ sparseTypes) :
    safetyCheck (runChunks s0 chunks).1 ≠ .ok :=
  lemma_vmdk_rejects s0 h0 chunks hs fun hsafe => h (lemma_vmdkSafe_desc hsafe hp).2.1

/-- a line that is neither blank, a comment, a `ddb` line, a header field nor an extent line -/
theorem vmdk_rejects_bad_line_partial (s0 : Insp) (h0 : Insp.init .vmdk = some s0)
    (chunks : List Bytes) (hs : VmdkSparse chunks.flatten) (t ty l : Bytes)
    (hp : parseDesc (sliceOf chunks.flatten 512 (vmdkDescLen chunks.flatten)) = some (t, ty))
    (hl : l ∈ (splitOn 0x0a t).map strip) (h : classifyLine l = .bad) :
    safetyCheck (runChunks s0 chunks).1 ≠ .ok :=
  lemma_vmdk_rejects s0 h0 chunks hs fun hsafe => (lemma_vmdkSafe_desc hsafe hp).2.2.1 l hl h

/-- no extent line at all -/
theorem vmdk_rejects_no_extent_partial (s0 : Insp) (h0 : Insp.init .vmdk = some s0)
    (chunks : List Bytes) (hs : VmdkSparse chunks.flatten) (t ty : Bytes)
    (hp : parseDesc (sliceOf chunks.flatten 512 (vmdkDescLen chunks.flatten)) = some (t, ty))
    (h : ∀ l ∈ (splitOn 0x0a t).map strip, classifyLine l ≠ .extent) :
    safetyCheck (runChunks s0 chunks).1 ≠ .ok :=
  lemma_vmdk_rejects s0 h0 chunks hs fun hsafe =>
    let ⟨l, hl, he⟩ := (lemma_vmdkSafe_desc hsafe hp).2.2.2.1
    h l hl he

/-- an extent line that contains `/` (names a path) -/
theorem vmdk_rejects_extent_path_partial (s0 : Insp) (h0 : Insp.init .vmdk = some s0)
    (chunks : List Bytes) (hs : VmdkSparse chunks.flatten) (t ty l : Bytes)
    (hp : parseDesc (sliceOf chunks.flatten 512 (vmdkDescLen chunks.flatten)) = some (t, ty))
    (hl : l ∈ (splitOn 0x0a t).map strip) (he : classifyLine l = .extent) (h : l.contains 0x2f = true) :
    safetyCheck (runChunks s0 chunks).1 ≠ .ok :=
  lemma_vmdk_rejects s0 h0 chunks hs fun hsafe =>
    Bool.noConfusion (h.symm.trans ((lemma_vmdkSafe_desc hsafe hp).2.2.2.2 l hl he))

/-- an announced footer that is absent or contradicts the header (different signature, version or
    descriptor location in the header copy, a header copy that again points to a footer, or malformed
    footer / end-of-stream markers) -/
theorem vmdk_rejects_footer_partial (s0 : Insp) (h0 : Insp.init .vmdk = some s0)
    (chunks : List Bytes) (hs : VmdkSparse chunks.flatten)
    (hg : (hdrOf chunks.flatten).gdOffset = Gen.vmdkGdAtEnd)
    (h : ¬ FooterSafe (hdrOf chunks.flatten) (lastN 1536 chunks.flatten)) :
    safetyCheck (runChunks s0 chunks).1 ≠ .ok :=
  lemma_vmdk_rejects s0 h0 chunks hs fun hsafe => h (hsafe.2.2.2 hg).2

/-- … in particular a header copy in the footer with another descriptor location -/
theorem vmdk_rejects_footer_desc_mismatch_partial (s0 : Insp) (h0 : Insp.init .vmdk = some s0)
    (chunks : List Bytes) (hs : VmdkSparse chunks.flatten)
    (hg : (hdrOf chunks.flatten).gdOffset = Gen.vmdkGdAtEnd) (fh : SparseHeader)
    (hf : parseSparseHeader (lastN 1536 chunks.flatten) 512 = .ok fh)
    (h : (hdrOf chunks.flatten).descSec ≠ fh.descSec ∨ (hdrOf chunks.flatten).descNum ≠ fh.descNum ∨
         (hdrOf chunks.flatten).ver ≠ fh.ver ∨ (hdrOf chunks.flatten).sig ≠ fh.sig ∨
         fh.gdOffset = Gen.vmdkGdAtEnd) :
    safetyCheck (runChunks s0 chunks).1 ≠ .ok := by
  apply vmdk_rejects_footer_partial s0 h0 chunks hs hg
  rintro ⟨fh', hf', a1, a2, a3, a4, a5, _⟩
  rw [hf] at hf'
  cases hf'
  rcases h with h | h | h | h | h
  · exact h a3
  · exact h a4
  · exact h a2
  · exact h a1
  · exact a5 h

/-! ### the clean images are accepted (non-vacuity of the right-hand side, both branches) -/

/-- the footer-less image of C01Vmdk is accepted under every chunking -/
theorem vmdk_clean_accepted (s0 : Insp) (h0 : Insp.init .vmdk = some s0) (chunks : List Bytes)
    (h : chunks.flatten = exVmdk) : safetyCheck (runChunks s0 chunks).1 = .ok :=
  (congrArg Verdict.safety (lemma_vmdk_verdict_of_flatten s0 h0 chunks exVmdk h lemma_exVmdk_sparse)).trans
    lemma_exVmdk_spec.2.2.1

/-- a streamOptimized image: header announcing a footer, descriptor at sector 1, one grain-less
    payload sector, footer marker + header copy (gd offset 3) + end-of-stream marker -/
def exVmdkFooter : Bytes :=
  kdmv ++ [3, 0, 0, 0] ++ zeros 4 ++ [0, 8, 0, 0, 0, 0, 0, 0] ++ zeros 8 ++
    [1, 0, 0, 0, 0, 0, 0, 0] ++ [1, 0, 0, 0, 0, 0, 0, 0] ++ zeros 12 ++ List.replicate 8 255 ++ zeros 448 ++
    ascii "createType=\"streamOptimized\"\nRW 2048 SPARSE \"x.vmdk\"\n" ++ zeros 459 ++
    zeros 512 ++
    ([1, 0, 0, 0, 0, 0, 0, 0] ++ zeros 4 ++ [3, 0, 0, 0] ++ zeros 496) ++
    (kdmv ++ [3, 0, 0, 0] ++ zeros 4 ++ [0, 8, 0, 0, 0, 0, 0, 0] ++ zeros 8 ++
      [1, 0, 0, 0, 0, 0, 0, 0] ++ [1, 0, 0, 0, 0, 0, 0, 0] ++ zeros 12 ++ [3, 0, 0, 0, 0, 0, 0, 0] ++ zeros 448) ++
    zeros 512

theorem lemma_exVmdkFooter_hdr : hdrOf exVmdkFooter = ⟨kdmv, 3, 2048, 1, 1, Gen.vmdkGdAtEnd⟩ := by
  decide +kernel

theorem lemma_exVmdkFooter_text_length :
    (ascii "createType=\"streamOptimized\"\nRW 2048 SPARSE \"x.vmdk\"\n").length = 53 := by
  rw [ascii_ofList]; rfl

theorem lemma_exVmdkFooter_length : exVmdkFooter.length = 3072 := by
  simp only [exVmdkFooter, List.length_append, lemma_exVmdkFooter_text_length, lemma_kdmv_length, zeros,
    List.length_replicate, List.length_cons, List.length_nil]

theorem lemma_exVmdkFooter_parse : parseDesc (sliceOf exVmdkFooter 512 512) =
    some (ascii "createtype=\"streamoptimized\"\nrw 2048 sparse \"x.vmdk\"\n", ascii "streamoptimized") := by
  have hd : sliceOf exVmdkFooter 512 512 =
      ascii "createType=\"streamOptimized\"\nRW 2048 SPARSE \"x.vmdk\"\n" ++ zeros 459 := by
    -- regroup as `(header and padding) ++ descriptor sector ++ rest`: each rewrite picks one `++` by the
    -- shape of its middle operand
    rw [exVmdkFooter, List.append_assoc _ (_ ++ zeros 448) _, List.append_assoc _ (_ ++ zeros 496) _,
      List.append_assoc _ (zeros 512) _, List.append_assoc _ (ascii _) _]
    apply lemma_sliceOf_mid <;>
    simp only [List.length_append, lemma_exVmdkFooter_text_length, lemma_kdmv_length, zeros,
      List.length_replicate, List.length_cons, List.length_nil]
  rw [hd]
  repeat rw [ascii_ofList]
  decide +kernel

/-- the last three sectors of `exVmdkFooter`: footer marker, header copy, end-of-stream marker -/
def exVmdkFooterTail : Bytes :=
  [1, 0, 0, 0, 0, 0, 0, 0] ++ zeros 4 ++ [3, 0, 0, 0] ++ zeros 496 ++
    (kdmv ++ [3, 0, 0, 0] ++ zeros 4 ++ [0, 8, 0, 0, 0, 0, 0, 0] ++ zeros 8 ++
      [1, 0, 0, 0, 0, 0, 0, 0] ++ [1, 0, 0, 0, 0, 0, 0, 0] ++ zeros 12 ++ [3, 0, 0, 0, 0, 0, 0, 0] ++ zeros 448 ++
     zeros 512)

theorem lemma_exVmdkFooterTail_length : exVmdkFooterTail.length = 1536 := by
  simp only [exVmdkFooterTail, List.length_append, lemma_kdmv_length, zeros, List.length_replicate,
    List.length_cons, List.length_nil]

/-- the image as `p ++ tail` with `p` opaque, so that a statement about the footer mentions only the
    tail (the rewrites pick the header copy and the marker sector by their shape) -/
theorem lemma_exVmdkFooter_split : ∃ p : Bytes, p.length = 1536 ∧ exVmdkFooter = p ++ exVmdkFooterTail := by
  rw [exVmdkFooter, List.append_assoc _ (_ ++ zeros 448) _, List.append_assoc _ (_ ++ zeros 496) _]
  refine ⟨_, ?_, rfl⟩
  simp only [List.length_append, lemma_exVmdkFooter_text_length, lemma_kdmv_length, zeros,
    List.length_replicate, List.length_cons, List.length_nil]

theorem lemma_exVmdkFooter_footer :
    CheckRes.ofExcept (footerCheckH (hdrOf exVmdkFooter) (lastN 1536 exVmdkFooter)) = .pass := by
  obtain ⟨p, _, hx⟩ := lemma_exVmdkFooter_split
  rw [lemma_exVmdkFooter_hdr, hx,
    lemma_lastN_append_right _ _ 1536 lemma_exVmdkFooterTail_length (by decide), exVmdkFooterTail]
  decide +kernel

/-- … and it is accepted under every chunking (footer branch of the characterisation) -/
theorem vmdk_clean_footer_accepted (s0 : Insp) (h0 : Insp.init .vmdk = some s0) (chunks : List Bytes)
    (h : chunks.flatten = exVmdkFooter) : safetyCheck (runChunks s0 chunks).1 = .ok := by
  have hl := lemma_exVmdkFooter_length
  refine (congrArg Verdict.safety (lemma_vmdk_verdict_of_flatten s0 h0 chunks _ h
    (lemma_vmdkSparse_of_hdr lemma_exVmdkFooter_hdr (by omega) ⟨rfl, Or.inr (Or.inr rfl)⟩
      (fun _ => by omega)))).trans ?_
  rw [lemma_specVmdk_parsed exVmdkFooter _ _ _ lemma_exVmdkFooter_hdr rfl
    (by rw [lemma_exVmdkFooter_length]; decide) lemma_exVmdkFooter_parse, lemma_exVmdkFooter_length]
  simp only [← lemma_exVmdkFooter_hdr, lemma_exVmdkFooter_footer]
  repeat rw [ascii_ofList]
  decide +kernel

example : exVmdkFooter.length = 3072 ∧ (hdrOf exVmdkFooter).gdOffset = Gen.vmdkGdAtEnd :=
  ⟨lemma_exVmdkFooter_length, by rw [lemma_exVmdkFooter_hdr]⟩

/-! ### non-vacuity of the rejection theorems: concrete rejected images meeting their hypotheses -/

/-- footer-less sparse image with the given descriptor sector and one-sector descriptor text -/
def mkVmdk (descSec : Nat) (desc : String) : Bytes :=
  kdmv ++ [1, 0, 0, 0] ++ zeros 4 ++ [0, 8, 0, 0, 0, 0, 0, 0] ++ zeros 8 ++
    encodeLE 8 descSec ++ [1, 0, 0, 0, 0, 0, 0, 0] ++ zeros 20 ++ zeros 448 ++
    ascii desc ++ zeros (512 - (ascii desc).length)

theorem lemma_hdrOf_append3 (q t z : Bytes) (h : 64 ≤ q.length) : hdrOf (q ++ t ++ z) = hdrOf q := by
  rw [lemma_hdrOf_append _ z (by rw [List.length_append]; omega), lemma_hdrOf_append q t h]

theorem lemma_mkVmdk_hdr (d : Nat) (desc : String) : hdrOf (mkVmdk d desc) = hdrOf (mkVmdk d "") := by
  unfold mkVmdk
  rw [lemma_hdrOf_append3, lemma_hdrOf_append3 _ (ascii "")] <;>
  simp only [List.length_append, lemma_kdmv_length, lemma_encodeLE_length, zeros, List.length_replicate,
    List.length_cons, List.length_nil] <;> omega

theorem lemma_mkVmdk_desc (d : Nat) (desc : String) (h : (ascii desc).length ≤ 512) :
    (mkVmdk d desc).length = 1024 ∧
    sliceOf (mkVmdk d desc) 512 512 = ascii desc ++ zeros (512 - (ascii desc).length) := by
  unfold mkVmdk
  rw [List.append_assoc _ (ascii _) _]
  refine ⟨?_, lemma_sliceOf_append_right _ _ 512 512 ?_ ?_⟩ <;>
  simp only [List.length_append, lemma_kdmv_length, lemma_encodeLE_length, zeros, List.length_replicate,
    List.length_cons, List.length_nil] <;> omega

theorem lemma_mkVmdk1_hdr (desc : String) : hdrOf (mkVmdk 1 desc) = ⟨kdmv, 1, 2048, 1, 1, 0⟩ :=
  (lemma_mkVmdk_hdr 1 desc).trans (by decide +kernel)

theorem lemma_mkVmdk1 (desc : String) (h : (ascii desc).length ≤ 512) :
    VmdkSparse (mkVmdk 1 desc) ∧
    sliceOf (mkVmdk 1 desc) 512 (vmdkDescLen (mkVmdk 1 desc)) =
      ascii desc ++ zeros (512 - (ascii desc).length) := by
  obtain ⟨hl, hd⟩ := lemma_mkVmdk_desc 1 desc h
  refine ⟨lemma_vmdkSparse_of_hdr (lemma_mkVmdk1_hdr desc) (by omega) ⟨rfl, Or.inl rfl⟩
    (fun h => absurd h (by decide)), ?_⟩
  rw [vmdkDescLen, lemma_mkVmdk1_hdr]
  exact hd

example : mkVmdk 1 "createType=\"monolithicSparse\"\nRW 2048 SPARSE \"x.vmdk\"\n" = exVmdk := by
  rw [mkVmdk, exVmdk, lemma_exVmdk_text_length]
  rfl

/-- descriptor announced at sector 2 -/
example :
    let s := mkVmdk 2 "createType=\"monolithicSparse\"\nRW 2048 SPARSE \"x.vmdk\"\n"
    VmdkSparse s ∧ (hdrOf s).descSec * 512 ≠ Gen.vmdkDescOffset := by
  have hl := (lemma_mkVmdk_desc 2 "createType=\"monolithicSparse\"\nRW 2048 SPARSE \"x.vmdk\"\n"
    (by rw [lemma_exVmdk_text_length]; decide)).1
  have hH := (lemma_mkVmdk_hdr 2 "createType=\"monolithicSparse\"\nRW 2048 SPARSE \"x.vmdk\"\n").trans
    (show hdrOf (mkVmdk 2 "") = ⟨kdmv, 1, 2048, 2, 1, 0⟩ by decide +kernel)
  exact ⟨lemma_vmdkSparse_of_hdr hH (by omega) ⟨rfl, Or.inl rfl⟩ (fun h => absurd h (by decide)),
    by rw [hH]; decide⟩

/-- createType `vmfs` -/
example :
    let s := mkVmdk 1 "createType=\"vmfs\"\nRW 2048 VMFS \"x-flat.vmdk\"\n"
    VmdkSparse s ∧
    parseDesc (sliceOf s 512 (vmdkDescLen s)) =
      some (ascii "createtype=\"vmfs\"\nrw 2048 vmfs \"x-flat.vmdk\"\n", ascii "vmfs") ∧
    ascii "vmfs" ∉ sparseTypes := by
  obtain ⟨hs, hd⟩ := lemma_mkVmdk1 "createType=\"vmfs\"\nRW 2048 VMFS \"x-flat.vmdk\"\n"
    (by rw [ascii_ofList]; decide)
  refine ⟨hs, ?_⟩
  rw [hd, sparseTypes]
  repeat rw [ascii_ofList]
  decide +kernel

/-- an extent naming a path -/
example :
    let s := mkVmdk 1 "createType=\"monolithicSparse\"\nRW 2048 SPARSE \"/etc/passwd\"\n"
    let t := ascii "createtype=\"monolithicsparse\"\nrw 2048 sparse \"/etc/passwd\"\n"
    let l := ascii "rw 2048 sparse \"/etc/passwd\""
    VmdkSparse s ∧ parseDesc (sliceOf s 512 (vmdkDescLen s)) = some (t, ascii "monolithicsparse") ∧
    l ∈ (splitOn 0x0a t).map strip ∧ classifyLine l = .extent ∧ l.contains 0x2f = true := by
  obtain ⟨hs, hd⟩ := lemma_mkVmdk1 "createType=\"monolithicSparse\"\nRW 2048 SPARSE \"/etc/passwd\"\n"
    (by rw [ascii_ofList]; decide)
  refine ⟨hs, ?_⟩
  rw [hd]
  repeat rw [ascii_ofList]
  decide +kernel

/-- an unrecognised line -/
example :
    let s := mkVmdk 1 "createType=\"monolithicSparse\"\nRW 2048 SPARSE \"x.vmdk\"\nhello world\n"
    let t := ascii "createtype=\"monolithicsparse\"\nrw 2048 sparse \"x.vmdk\"\nhello world\n"
    VmdkSparse s ∧ parseDesc (sliceOf s 512 (vmdkDescLen s)) = some (t, ascii "monolithicsparse") ∧
    ascii "hello world" ∈ (splitOn 0x0a t).map strip ∧ classifyLine (ascii "hello world") = .bad := by
  obtain ⟨hs, hd⟩ :=
    lemma_mkVmdk1 "createType=\"monolithicSparse\"\nRW 2048 SPARSE \"x.vmdk\"\nhello world\n"
      (by rw [ascii_ofList]; decide)
  refine ⟨hs, ?_⟩
  rw [hd]
  repeat rw [ascii_ofList]
  decide +kernel

/-- no extent line -/
example :
    let s := mkVmdk 1 "createType=\"monolithicSparse\"\n# no extents\n"
    let t := ascii "createtype=\"monolithicsparse\"\n# no extents\n"
    VmdkSparse s ∧ parseDesc (sliceOf s 512 (vmdkDescLen s)) = some (t, ascii "monolithicsparse") ∧
    ∀ l ∈ (splitOn 0x0a t).map strip, classifyLine l ≠ .extent := by
  obtain ⟨hs, hd⟩ := lemma_mkVmdk1 "createType=\"monolithicSparse\"\n# no extents\n"
    (by rw [ascii_ofList]; decide)
  refine ⟨hs, ?_⟩
  rw [hd]
  repeat rw [ascii_ofList]
  decide +kernel

theorem lemma_hdrOf_take_append (x r : Bytes) (n : Nat) (h : 64 ≤ (x.take n).length) :
    hdrOf (x.take n ++ r) = hdrOf x := by
  rw [lemma_hdrOf_append _ r h, ← lemma_hdrOf_append _ (x.drop n) h, List.take_append_drop]

theorem lemma_patch_append (p f mid : Bytes) (n m : Nat) (hn : p.length ≤ n) (hm : p.length ≤ m) :
    (p ++ f).take n ++ mid ++ (p ++ f).drop m =
      p ++ (f.take (n - p.length) ++ mid ++ f.drop (m - p.length)) := by
  rw [List.take_append, List.drop_append, List.take_of_length_le hn, List.drop_eq_nil_of_le hm]
  simp only [List.append_assoc, List.nil_append]

theorem lemma_vmdk_parse_drop (s : Bytes) (off : Nat) (h : off + 64 ≤ s.length) :
    parseSparseHeader s off = .ok (hdrOf (s.drop off)) := by
  rw [← lemma_vmdk_parse_hdrOf _ (by rw [List.length_drop]; omega)]
  simp only [parseSparseHeader, slice, List.drop_take, Nat.add_sub_cancel_left, Nat.zero_add, List.drop_zero,
    Nat.sub_zero]

/-- a footer whose header copy puts the descriptor at sector 9: rejected under every chunking -/
example (s0 : Insp) (h0 : Insp.init .vmdk = some s0) (chunks : List Bytes)
    (h : chunks.flatten = exVmdkFooter.take (1536 + 512 + 28) ++ [9] ++ exVmdkFooter.drop (1536 + 512 + 29)) :
    safetyCheck (runChunks s0 chunks).1 ≠ .ok := by
  have hl : chunks.flatten.length = 3072 := by
    rw [h, List.length_append, List.length_append, List.length_take, List.length_drop,
      lemma_exVmdkFooter_length]
    decide
  have hH : hdrOf chunks.flatten = ⟨kdmv, 3, 2048, 1, 1, Gen.vmdkGdAtEnd⟩ := by
    rw [h, List.append_assoc, lemma_hdrOf_take_append _ _ _ (by
      rw [List.length_take, lemma_exVmdkFooter_length]; decide), lemma_exVmdkFooter_hdr]
  have hd : (hdrOf ((lastN 1536 chunks.flatten).drop 512)).descSec = 9 := by
    obtain ⟨p, hp, hx⟩ := lemma_exVmdkFooter_split
    rw [h, hx, lemma_patch_append _ _ _ _ _ (by omega) (by omega), hp,
      lemma_lastN_append_right _ _ 1536 (by
        simp only [List.length_append, List.length_take, List.length_drop, lemma_exVmdkFooterTail_length,
          List.length_cons, List.length_nil]
        rfl) (by decide), exVmdkFooterTail]
    decide +kernel
  refine vmdk_rejects_footer_desc_mismatch_partial s0 h0 chunks
    (lemma_vmdkSparse_of_hdr hH (by omega) ⟨rfl, Or.inr (Or.inr rfl)⟩ (fun _ => by omega))
    (by rw [hH]) _ (lemma_vmdk_parse_drop _ 512 (by rw [lemma_lastN_length 1536 (by decide), hl]; decide))
    (Or.inl ?_)
  rw [hH, hd]
  decide

end Oslo.Insp
