/-
C10 — string_to_bytes computes the exact byte quantity or raises ValueError;
QemuImgInfo size fields.

The property theorems and the lemmas about their vocabulary (`lemma_…`; the parser lemmas are in
Lemmas/C10.lean).  The
documented grammar and arithmetic (`Sys`, `specExp`, `Text`, `render`, `Text.num`,
`Text.den`) are written here by hand; the code's tables enter through
`OsloModel/Generated/C10.lean` and are tied to the documented ones by
`s2b_tables_complete` (kernel evaluation over the complete tables).
-/
import OsloProofs.Lemmas.C10
namespace Oslo.Units
open Oslo.Generated.C10

inductive Sys | iec | si | mixed
  deriving DecidableEq, Repr

def Sys.key : Sys → List Char
  | .iec => ['I', 'E', 'C']
  | .si => ['S', 'I']
  | .mixed => ['m', 'i', 'x', 'e', 'd']

/-- first letters of the prefixes a system admits (in code-point order, as the translator emits
    the character class of the compiled regex) -/
def Sys.letters : Sys → List Char
  | .iec => ['E', 'G', 'K', 'M', 'P', 'Q', 'R', 'T', 'Y', 'Z']
  | .si => ['E', 'G', 'M', 'P', 'Q', 'R', 'T', 'Y', 'Z', 'k']
  | .mixed => ['E', 'G', 'K', 'M', 'P', 'Q', 'R', 'T', 'Y', 'Z', 'k']

/-- whether the binary spelling `Ki`, `Mi`, … is admitted -/
def Sys.optI : Sys → Bool
  | .iec => true
  | .si => false
  | .mixed => true

/-- the base stored in UNIT_SYSTEM_INFO (mixed: None) -/
def Sys.tableBase : Sys → Option Nat
  | .iec => some 1024
  | .si => some 1000
  | .mixed => none

/-- every prefix text a system admits -/
def Sys.prefixes (s : Sys) : List (List Char) :=
  s.letters.flatMap fun c => if s.optI then [[c], [c, 'i']] else [[c]]

/-- base: 1024 for IEC, 1000 for SI, in mixed mode 1024 for prefixes ending in `i` and 1000 otherwise -/
def Sys.base (s : Sys) (pfx : List Char) : Nat :=
  match s with
  | .iec => 1024
  | .si => 1000
  | .mixed => if pfx.getLast? = some 'i' then 1024 else 1000

/-- exponent of a prefix, by its first letter -/
def specExp : Char → Option Nat
  | 'k' => some 1 | 'K' => some 1 | 'M' => some 2 | 'G' => some 3 | 'T' => some 4 | 'P' => some 5
  | 'E' => some 6 | 'Z' => some 7 | 'Y' => some 8 | 'R' => some 9 | 'Q' => some 10
  | _ => none

/-- `base ^ exponent` of an admitted prefix, 1 without a prefix -/
def specMult (s : Sys) (pfx : List Char) : Option Nat :=
  if pfx = [] then some 1 else (pfx.head?.bind specExp).map fun e => s.base pfx ^ e

/-- a text `[sign]number[prefix]unit` -/
structure Text where
  sign : Option Bool            -- none, `+` (some false), `-` (some true)
  ip : List Char                -- integer digits
  fp : Option (List Char)       -- fraction digits after a dot
  pfx : List Char
  unit : UnitText

def signChars : Option Bool → List Char
  | none => []
  | some false => ['+']
  | some true => ['-']

def Text.neg (t : Text) : Bool := t.sign = some true

/-- nothing, or the single newline that a `$` anchor would let through -/
def nlChars (nl : Bool) : List Char := if nl then ['\n'] else []

/-- the text, optionally followed by one newline -/
def renderNl (t : Text) (nl : Bool) : List Char :=
  signChars t.sign ++ (t.ip ++ dotFrac t.fp ++ (t.pfx ++ (t.unit.chars ++ nlChars nl)))

/-- the text itself (`nlChars false = []`) -/
def render (t : Text) : List Char := renderNl t false

theorem lemma_render_newline (t : Text) : render t ++ ['\n'] = renderNl t true := by
  simp [render, renderNl, nlChars, List.append_assoc]

/-- digits well formed (`\d*\.?\d+`) and prefix admitted by the system (or absent) -/
def Text.Admitted (s : Sys) (t : Text) : Prop :=
  NumWF t.ip t.fp ∧ (t.pfx = [] ∨ t.pfx ∈ s.prefixes)

/-- the digits read as a natural number; the magnitude is `±mant / 10^scale` -/
def Text.mant (t : Text) : Nat := natOfDigits (t.ip ++ fracDigits t.fp)
def Text.scale (t : Text) : Nat := (fracDigits t.fp).length

/-- exact quantity `num/den`: ±mant · base^exponent / (10^scale · (8 for bit units)) -/
def Text.num (t : Text) (mult : Nat) : Int := (if t.neg then -1 else 1) * ((t.mant * mult : Nat) : Int)
def Text.den (t : Text) : Nat := 10 ^ t.scale * unitDiv t.unit.kind

/-- inside binary64: neither the magnitude nor the quantity rounds to infinity, and the
    magnitude (divided by 8 for bit units) is zero or at least the smallest normal number -/
def Text.InRange (t : Text) (mult : Nat) : Prop :=
  isHuge t.mant (10 ^ t.scale) = false ∧ isHuge (t.num mult) t.den = false ∧ isTiny t.mant t.den = false

/-- **Tables** — for each of the three systems the table entry (base, regex prefix class, end
    anchor `\Z`: no trailing newline) is the documented one, and every prefix the regex admits has an exponent in UNIT_PREFIX_EXPONENT
    (so no admitted prefix raises KeyError, finding D5) which, with the base rule, gives the documented
    multiplier. -/
theorem s2b_tables_complete (s : Sys) :
    lookupSys s.key = some (s.tableBase, s.letters, s.optI, false) ∧
    ∀ p ∈ s.prefixes, (multiplier s.key s.tableBase p).toOption = specMult s p ∧
                      (specMult s p).isSome = true := by
  cases s <;> decide +kernel

/-- **Exactly three unit systems** — the live table `UNIT_SYSTEM_INFO`, read after the whole package
    has been imported (any module may touch the public table at import), has the keys `IEC`, `SI`, `mixed`
    and no other: a sibling module registering a further name would make that name a known system. -/
theorem s2b_systems_are_exactly_three :
    unitSystemInfo.map (·.1) = [Sys.iec.key, Sys.si.key, Sys.mixed.key] := by decide +kernel

theorem lemma_lookupSys_none (key : List Char) (h : ∀ s : Sys, key ≠ s.key) : lookupSys key = none := by
  have e1 : (Sys.iec.key == key) = false := beq_eq_false_iff_ne.mpr (Ne.symm (h .iec))
  have e2 : (Sys.si.key == key) = false := beq_eq_false_iff_ne.mpr (Ne.symm (h .si))
  have e3 : (Sys.mixed.key == key) = false := beq_eq_false_iff_ne.mpr (Ne.symm (h .mixed))
  simp only [Sys.key] at e1 e2 e3
  simp [lookupSys, unitSystemInfo, List.find?, e1, e2, e3]

theorem lemma_letters (s : Sys) :
    ∀ c ∈ s.letters, numStart c = false ∧ c ≠ 'b' ∧ c ≠ 'B' := by
  cases s <;> decide +kernel

theorem lemma_mem_prefixes_iff (s : Sys) (p : List Char) :
    p ∈ s.prefixes ↔ ∃ c ∈ s.letters, p = [c] ∨ (s.optI = true ∧ p = [c, 'i']) := by
  unfold Sys.prefixes
  cases s.optI <;> simp [List.mem_flatMap]

theorem lemma_unit_head (u : UnitText) (nl : Bool) :
    ∃ c r, u.chars ++ nlChars nl = c :: r ∧ (c = 'b' ∨ c = 'B') := by
  cases u with
  | b => exact ⟨'b', _, rfl, Or.inl rfl⟩
  | bit => exact ⟨'b', _, rfl, Or.inl rfl⟩
  | B => exact ⟨'B', _, rfl, Or.inr rfl⟩

theorem lemma_parseUnit_head (nlOk : Bool) (c : Char) (r : List Char) (h1 : c ≠ 'b') (h2 : c ≠ 'B') :
    parseUnit nlOk (c :: r) = none := by
  simp [parseUnit, h1, h2]

/-- the prefix is read back because the unit letter that follows is neither a prefix letter nor `i` -/
theorem lemma_admitted_tail (s : Sys) (p : List Char) (hp : p = [] ∨ p ∈ s.prefixes) (u : UnitText) (nl : Bool) :
    NumEnd (p ++ (u.chars ++ nlChars nl)) ∧
    parsePrefix s.letters s.optI (p ++ (u.chars ++ nlChars nl)) = (p, u.chars ++ nlChars nl) := by
  obtain ⟨b, r, hr, hb⟩ := lemma_unit_head u nl
  have hbl : b ∉ s.letters := fun hm => by
    have := lemma_letters s b hm
    rcases hb with rfl | rfl
    · exact this.2.1 rfl
    · exact this.2.2 rfl
  have hbd : numStart b = false ∧ (b == 'i') = false := by rcases hb with rfl | rfl <;> decide
  rw [hr]
  rcases hp with rfl | hp
  · exact ⟨lemma_noHead_cons _ b r hbd.1, lemma_parsePrefix_none _ _ _ (lemma_noHead_cons _ b r (by simpa using hbl))⟩
  · obtain ⟨c, hc, rfl | ⟨ho, rfl⟩⟩ := (lemma_mem_prefixes_iff s p).mp hp
    · have hcf := lemma_letters s c hc
      exact ⟨lemma_noHead_cons _ c _ hcf.1,
        lemma_parsePrefix_one _ _ c _ (by simpa using hc) (Or.inr (lemma_noHead_cons _ b r hbd.2))⟩
    · have hcf := lemma_letters s c hc
      rw [ho]
      exact ⟨lemma_noHead_cons _ c _ hcf.1, lemma_parsePrefix_two _ c _ (by simpa using hc)⟩

theorem lemma_splitSign_render (sg : Option Bool) (ip : List Char) (fp : Option (List Char))
    (rest : List Char) (hwf : NumWF ip fp) :
    splitSign (signChars sg ++ (ip ++ dotFrac fp ++ rest)) = (decide (sg = some true), ip ++ dotFrac fp ++ rest) := by
  cases sg with
  | some b => cases b <;> simp [signChars, splitSign]
  | none =>
    -- the number starts with a digit or the dot
    cases ip with
    | cons c cs =>
      have hc : isDigit c = true := hwf.1 c (by simp)
      have h1 : c ≠ '-' := by rintro rfl; revert hc; decide
      have h2 : c ≠ '+' := by rintro rfl; revert hc; decide
      simp [signChars, splitSign, h1, h2]
    | nil =>
      cases fp with
      | none => exact absurd rfl hwf.2
      | some f => simp [signChars, dotFrac, splitSign]

theorem lemma_parseUnit_tail (u : UnitText) (nl : Bool) :
    parseUnit false (u.chars ++ nlChars nl) = if nl then none else some u.kind := by
  cases u <;> cases nl <;> rfl

theorem lemma_s2b_number (s : Sys) (sg : Option Bool) (ip : List Char) (fp : Option (List Char))
    (rest : List Char) (hwf : NumWF ip fp) (hend : NumEnd rest) (ri : Bool) :
    stringToBytes s.key (signChars sg ++ (ip ++ dotFrac fp ++ rest)) ri =
      match parseUnit false (parsePrefix s.letters s.optI rest).2 with
      | none => .error .valueError
      | some u =>
        compute s.key s.tableBase ri (decide (sg = some true)) ip fp (parsePrefix s.letters s.optI rest).1 u := by
  unfold stringToBytes
  rw [(s2b_tables_complete s).1]
  simp only [lemma_splitSign_render sg ip fp rest hwf, lemma_parseNumber_render ip fp rest hwf hend]
  rfl

theorem lemma_s2b_renderNl (s : Sys) (t : Text) (ha : t.Admitted s) (ri nl : Bool) :
    stringToBytes s.key (renderNl t nl) ri =
      if nl then .error .valueError
      else compute s.key s.tableBase ri t.neg t.ip t.fp t.pfx t.unit.kind := by
  obtain ⟨h1, h2⟩ := lemma_admitted_tail s t.pfx ha.2 t.unit nl
  rw [renderNl, lemma_s2b_number s t.sign t.ip t.fp _ ha.1 h1 ri, h2, lemma_parseUnit_tail]
  cases nl <;> rfl

theorem lemma_multiplier (s : Sys) (p : List Char) (hp : p = [] ∨ p ∈ s.prefixes) (mult : Nat)
    (hm : specMult s p = some mult) : multiplier s.key s.tableBase p = .ok mult := by
  rcases hp with rfl | hp
  · simp [specMult] at hm; subst hm; simp [multiplier]
  · have := ((s2b_tables_complete s).2 p hp).1
    rw [hm] at this
    cases hx : multiplier s.key s.tableBase p <;> simp_all [Except.toOption]

theorem lemma_specMult_some (s : Sys) (t : Text) (ha : t.Admitted s) : ∃ mult, specMult s t.pfx = some mult := by
  apply Option.isSome_iff_exists.mp
  rcases ha.2 with h0 | h1
  · simp [specMult, h0]
  · exact ((s2b_tables_complete s).2 _ h1).2

theorem lemma_s2b_finish (s : Sys) (t : Text) (ha : t.Admitted s) (mult : Nat)
    (hm : specMult s t.pfx = some mult) (ri : Bool) :
    stringToBytes s.key (render t) ri =
      finish ri t.neg t.mant (10 ^ t.scale) (t.num mult) t.den := by
  rw [render, lemma_s2b_renderNl s t ha ri false, if_neg Bool.false_ne_true, compute,
    lemma_multiplier s t.pfx ha.2 mult hm]
  rfl

theorem lemma_den_pos (t : Text) : 0 < t.den := by
  unfold Text.den
  have : 0 < unitDiv t.unit.kind := by cases t.unit <;> decide
  exact Nat.mul_pos (Nat.pow_pos (by decide)) this

theorem lemma_ceilDiv (num : Int) (den : Nat) (h : 0 < den) :
    (den : Int) * (ceilDiv num den - 1) < num ∧ num ≤ (den : Int) * ceilDiv num den := by
  unfold ceilDiv
  have hd : (0 : Int) < (den : Int) := by omega
  have h1 := Int.mul_ediv_add_emod (-num) den
  have h2 := Int.emod_nonneg (-num) (Int.ne_of_gt hd)
  have h3 := Int.emod_lt_of_pos (-num) hd
  rw [Int.mul_sub, Int.mul_neg, Int.mul_one]
  generalize (den : Int) * (-num / den) = x at *
  omega

/-- **Value** — for every unit system, every sign, every digit string `\d*\.?\d+`, every
    admitted prefix (or none), every unit: the result is the float whose exact value is
    `±mant · base^exponent / (10^scale · (8 for bit units))`.
    Partial: proved for quantities inside the binary64 range (`InRange`); outside it Python
    yields `inf` / a denormal, see `s2b_out_of_range` (known finding N3-float-range). -/
theorem s2b_value_partial (s : Sys) (t : Text) (ha : t.Admitted s) (mult : Nat)
    (hm : specMult s t.pfx = some mult) (hr : t.InRange mult) :
    stringToBytes s.key (render t) false = .ok (.float (t.num mult) t.den) := by
  rw [lemma_s2b_finish s t ha mult hm]
  obtain ⟨h1, h2, h3⟩ := hr
  simp [finish, h1, h2, h3]

/-- **return_int is the ceiling** of the same exact quantity: `den·(n−1) < num ≤ den·n`.
    Partial: inside the binary64 range, as above. -/
theorem s2b_int_is_ceil_partial (s : Sys) (t : Text) (ha : t.Admitted s) (mult : Nat)
    (hm : specMult s t.pfx = some mult) (hr : t.InRange mult) :
    ∃ n : Int, stringToBytes s.key (render t) true = .ok (.int n) ∧
      (t.den : Int) * (n - 1) < t.num mult ∧ t.num mult ≤ (t.den : Int) * n := by
  rw [lemma_s2b_finish s t ha mult hm]
  obtain ⟨h1, h2, h3⟩ := hr
  exact ⟨ceilDiv (t.num mult) t.den, by simp [finish, h1, h2, h3], lemma_ceilDiv _ _ (lemma_den_pos t)⟩

/-- **Outside binary64** (the code as it is; known finding N3-float-range) — when the magnitude
    or the quantity reaches 2^1024 − 2^970 the result is `±inf`, and with `return_int` the call
    raises OverflowError, not ValueError; a non-zero magnitude below 2^-1022 gives a denormal
    whose digits the model does not determine. -/
theorem s2b_out_of_range (s : Sys) (t : Text) (ha : t.Admitted s) (mult : Nat)
    (hm : specMult s t.pfx = some mult) :
    ((isHuge t.mant (10 ^ t.scale) = true ∨ isHuge (t.num mult) t.den = true) →
      stringToBytes s.key (render t) false = .ok (.inf t.neg) ∧
      stringToBytes s.key (render t) true = .error .overflowError) ∧
    ((isHuge t.mant (10 ^ t.scale) = false ∧ isHuge (t.num mult) t.den = false ∧
        isTiny t.mant t.den = true) →
      ∀ ri, stringToBytes s.key (render t) ri = .ok (.tiny (t.num mult) t.den)) := by
  constructor
  · intro h
    rw [lemma_s2b_finish s t ha mult hm, lemma_s2b_finish s t ha mult hm]
    rcases h with h | h <;> simp [finish, h]
  · rintro ⟨h1, h2, h3⟩ ri
    rw [lemma_s2b_finish s t ha mult hm]
    simp [finish, h1, h2, h3]

/-- **End anchor** — every compiled unit regex ends in `\Z`, not `$` (generated anchor table,
    kernel-checked): this is what `s2b_trailing_newline_rejected` and `s2b_rejects` rest on, and what
    fails to build if the `$` of the repaired finding N3-trailing-newline comes back. -/
theorem s2b_end_anchor_strict :
    ∀ e ∈ unitSystemInfo, e.2.2.2.2 = false := by decide

/-- **The trailing newline is rejected** (finding N3-trailing-newline): an admitted text
    followed by a newline raises ValueError, for every system, sign, digits, prefix and unit. -/
theorem s2b_trailing_newline_rejected (s : Sys) (t : Text) (ha : t.Admitted s) (ri : Bool) :
    stringToBytes s.key (render t ++ ['\n']) ri = .error .valueError := by
  rw [lemma_render_newline, lemma_s2b_renderNl s t ha ri true]
  rfl

theorem lemma_splitSign_inv (text : List Char) :
    ∃ sg, text = signChars sg ++ (splitSign text).2 ∧ (splitSign text).1 = decide (sg = some true) := by
  unfold splitSign
  split
  · exact ⟨some true, by simp [signChars], by simp⟩
  · exact ⟨some false, by simp [signChars], by simp⟩
  · exact ⟨none, by simp [signChars], by simp⟩

theorem lemma_parse_inv (s : Sys) (text d1 : List Char) (d2 : Option (List Char)) (r1 : List Char)
    (k : UnitKind)
    (hn : parseNumber (splitSign text).2 = some (d1, d2, r1))
    (hu : parseUnit false (parsePrefix s.letters s.optI r1).2 = some k) :
    ∃ t : Text, t.Admitted s ∧ text = render t := by
  obtain ⟨sg, hsg, _⟩ := lemma_splitSign_inv text
  obtain ⟨hbody, hwf⟩ := lemma_parseNumber_inv _ _ _ _ hn
  generalize hpp : parsePrefix s.letters s.optI r1 = pr at hu ⊢
  obtain ⟨p, r2⟩ := pr
  obtain ⟨hr1, hp⟩ := lemma_parsePrefix_inv s.letters s.optI r1 p r2 hpp
  obtain ⟨u, hr2, _⟩ := lemma_parseUnit_inv _ _ hu
  simp only at hr2
  refine ⟨⟨sg, d1, d2, p, u⟩, ⟨hwf, ?_⟩, ?_⟩
  · rcases hp with hp | ⟨c, hc, hp⟩
    · exact Or.inl hp
    · exact Or.inr ((lemma_mem_prefixes_iff s p).mpr ⟨c, by simpa using hc, hp⟩)
  · unfold render renderNl
    simp only [nlChars, Bool.false_eq_true, ↓reduceIte, List.append_nil]
    rw [← hr2, ← hr1, ← hbody, ← hsg]

/-- **Rejects** — in a known unit system, every text that is not `[sign]number[prefix]unit` with a
    prefix the system admits raises ValueError (full strength: since the regexes end in `\Z` a
    trailing newline is no exception, see `s2b_trailing_newline_rejected`). -/
theorem s2b_rejects (s : Sys) (text : List Char) (ri : Bool)
    (h : ¬ ∃ t : Text, t.Admitted s ∧ text = render t) :
    stringToBytes s.key text ri = .error .valueError := by
  unfold stringToBytes
  rw [(s2b_tables_complete s).1]
  simp only
  cases hn : parseNumber (splitSign text).2 with
  | none => rfl
  | some num =>
    obtain ⟨d1, d2, r1⟩ := num
    simp only
    cases hu : parseUnit false (parsePrefix s.letters s.optI r1).2 with
    | none => rfl
    | some k =>
      exact absurd (lemma_parse_inv s text d1 d2 r1 k hn hu) h

/-- **Rejects, unknown unit system** — any key other than `IEC`, `SI`, `mixed` raises ValueError. -/
theorem s2b_rejects_unknown_system (key text : List Char) (ri : Bool) (h : ∀ s : Sys, key ≠ s.key) :
    stringToBytes key text ri = .error .valueError := by
  unfold stringToBytes
  rw [lemma_lookupSys_none key h]

/-- **Rejects, tuple-valued unit system** — a tuple of length
    other than 1 raises ValueError like every other unknown value: the live function, probed by the
    translator, builds its message without a TypeError (kernel-checked fact about the generated flag;
    fails to build if the message is built with an unwrapped `% unit_system`). -/
theorem s2b_tuple_system_rejected (text : List Char) (ri : Bool) :
    stringToBytesArg .badTuple text ri = .error .valueError := by
  have : tupleMessageFails = false := by decide
  simp [stringToBytesArg, this]

/-- **Rejects, any unit-system argument that is not one of the three names** — whether the argument
    is a str other than `IEC`, `SI`, `mixed` or a value that is not a str at all (`None`, `0`, `False`,
    `b'IEC'`, `('IEC',)`, `1.0`, …; passed by keyword or positionally, which the model does not
    distinguish), the call raises ValueError whatever the text.  Full strength: tuples of any length
    included (`s2b_tuple_system_rejected`). -/
theorem s2b_rejects_unknown_argument (a : SysArg) (text : List Char) (ri : Bool)
    (ho : a ≠ .omitted) (h : ∀ s : Sys, a ≠ .str s.key) :
    stringToBytesArg a text ri = .error .valueError := by
  cases a with
  | omitted => exact absurd rfl ho
  | badTuple => exact s2b_tuple_system_rejected text ri
  | other => rfl
  | str k =>
    exact s2b_rejects_unknown_system k text ri (fun s hk => h s (by rw [hk]))

/-- **Rejects, bytes-valued unit system** — ValueError.  Partial: in the default interpreter mode;
    under `python -bb` building the error message raises BytesWarning instead (second conjunct, the code
    as it is; known finding N7-bytes-unit-system-bb). -/
theorem s2b_rejects_bytes_system_partial :
    stringToBytesBytesSys false = .error .valueError ∧ stringToBytesBytesSys true = .error .bytesWarning :=
  ⟨rfl, rfl⟩

/-- **Default** — leaving the argument out means IEC (the default of the live signature, extracted
    on every run): it is a unit-system *name*, so an explicit `None` is not a way to say "default". -/
theorem s2b_default_is_iec (text : List Char) (ri : Bool) :
    stringToBytesArg .omitted text ri = stringToBytes Sys.iec.key text ri := by
  have : defaultUnitSystem = some Sys.iec.key := by decide
  simp only [stringToBytesArg, this]

example : stringToBytesArg .other ['1', 'K', 'B'] false = .error .valueError ∧
    stringToBytesArg .omitted ['1', 'K', 'B'] false = .ok (.float 1024 1) ∧
    stringToBytesArg (.str ['i', 'e', 'c']) ['1', 'K', 'B'] true = .error .valueError := by decide +kernel

/-- **return_int is a truth value** — the call yields the ceiling (an int) exactly when the flag is
    truthy and the float otherwise, whatever object carries the flag: two flags with the same truth value
    give the same result, and for an admitted in-range text a truthy flag gives the int `n` with
    `den·(n−1) < num ≤ den·n`, a falsy one (or none: the default is False, live signature) the float
    `num/den`.  Partial only through the binary64 range hypothesis, as `s2b_value_partial`. -/
theorem s2b_flag_is_truth_value_partial (s : Sys) (t : Text) (ha : t.Admitted s) (mult : Nat)
    (hm : specMult s t.pfx = some mult) (hr : t.InRange mult) (f : FlagArg) :
    (flagTruth f = true →
      ∃ n : Int, stringToBytesCall (.str s.key) (render t) f = .ok (.int n) ∧
        (t.den : Int) * (n - 1) < t.num mult ∧ t.num mult ≤ (t.den : Int) * n) ∧
    (flagTruth f = false →
      stringToBytesCall (.str s.key) (render t) f = .ok (.float (t.num mult) t.den)) ∧
    flagTruth .omitted = false := by
  refine ⟨fun h => ?_, fun h => ?_, by decide⟩
  · simp only [stringToBytesCall, stringToBytesArg, h]
    exact s2b_int_is_ceil_partial s t ha mult hm hr
  · simp only [stringToBytesCall, stringToBytesArg, h]
    exact s2b_value_partial s t ha mult hm hr

example : stringToBytesCall (.str Sys.iec.key) ['1', '2', 'b'] (.obj true) = .ok (.int 2) ∧
    stringToBytesCall (.str Sys.iec.key) ['1', '2', 'b'] (.obj false) = .ok (.float 12 8) ∧
    stringToBytesCall (.str Sys.iec.key) ['1', '2', 'b'] .omitted = .ok (.float 12 8) := by decide +kernel

theorem lemma_finish_error (ri neg : Bool) (a b : Nat) (c : Int) (d : Nat) (e : Err)
    (h : finish ri neg a b c d = .error e) : e = .overflowError ∧ ri = true := by
  unfold finish at h
  split at h
  · split at h
    · next hri => simp at h; exact ⟨h.symm, hri⟩
    · simp at h
  · split at h
    · simp at h
    · split at h <;> simp at h

/-- **Total** — whatever the unit-system key and the text, the only errors are ValueError and, with
    `return_int`, OverflowError; in particular never KeyError (finding D5: a prefix admitted by a
    regex but missing from the exponent table) and never TypeError (mixed mode's `None` base).
    Partial: the property allows ValueError only; OverflowError occurs exactly for the out-of-range
    magnitudes of `s2b_out_of_range` (known finding N3-float-range). -/
theorem s2b_total_partial (key text : List Char) (ri : Bool) (e : Err)
    (h : stringToBytes key text ri = .error e) :
    e = .valueError ∨ (e = .overflowError ∧ ri = true) := by
  by_cases hk : ∃ s : Sys, key = s.key
  · obtain ⟨s, rfl⟩ := hk
    by_cases ht : ∃ t : Text, t.Admitted s ∧ text = render t
    · obtain ⟨t, ha, rfl⟩ := ht
      obtain ⟨mult, hm⟩ := lemma_specMult_some s t ha
      rw [lemma_s2b_finish s t ha mult hm] at h
      exact Or.inr (lemma_finish_error _ _ _ _ _ _ _ h)
    · rw [s2b_rejects s text ri ht] at h
      exact Or.inl (by cases h; rfl)
  · rw [s2b_rejects_unknown_system key text ri (fun s hs => hk ⟨s, hs⟩)] at h
    exact Or.inl (by cases h; rfl)

/-- every prefix text of any of the three systems -/
def allPrefixes : List (List Char) := Sys.iec.prefixes ++ Sys.si.prefixes ++ Sys.mixed.prefixes

/-- after a prefix of another system the number has ended, but no unit follows what this system
    reads as its prefix: either the letter is not one of its letters, and nothing is taken off, or it
    is, the `i` is left over, and the unit does not start with `i` -/
theorem lemma_foreign_tail (s : Sys) (p : List Char) (hp : p ∈ allPrefixes) (hn : p ∉ s.prefixes)
    (rest : List Char) :
    NumEnd (p ++ rest) ∧ parseUnit false (parsePrefix s.letters s.optI (p ++ rest)).2 = none := by
  obtain ⟨s', hp'⟩ : ∃ s' : Sys, p ∈ s'.prefixes := by
    simp only [allPrefixes, List.mem_append] at hp
    rcases hp with (h | h) | h <;> exact ⟨_, h⟩
  obtain ⟨c, hc, hpc⟩ := (lemma_mem_prefixes_iff s' p).mp hp'
  have hcf := lemma_letters s' c hc
  have hend : NumEnd (p ++ rest) := by
    rcases hpc with rfl | ⟨_, rfl⟩ <;> exact lemma_noHead_cons _ c _ hcf.1
  refine ⟨hend, ?_⟩
  by_cases hcs : c ∈ s.letters
  · have hn' : ¬ (p = [c] ∨ (s.optI = true ∧ p = [c, 'i'])) := fun h =>
      hn ((lemma_mem_prefixes_iff s p).mpr ⟨c, hcs, h⟩)
    obtain ⟨_, rfl⟩ := hpc.resolve_left fun h => hn' (Or.inl h)
    have ho : s.optI = false := Bool.eq_false_iff.mpr fun ho => hn' (Or.inr ⟨ho, rfl⟩)
    rw [ho, List.cons_append, lemma_parsePrefix_one _ false c _ (by simpa using hcs) (Or.inl rfl)]
    exact lemma_parseUnit_head false 'i' _ (by decide) (by decide)
  · have hpe : ∃ r, p ++ rest = c :: r := by rcases hpc with rfl | ⟨_, rfl⟩ <;> exact ⟨_, rfl⟩
    obtain ⟨r, hr⟩ := hpe
    rw [hr, lemma_parsePrefix_none _ _ _ (lemma_noHead_cons _ c r (by simpa using hcs))]
    exact lemma_parseUnit_head false c r hcf.2.1 hcf.2.2

/-- **Rejects, foreign prefix** — a prefix of another unit system (`k`, `ki` in IEC; `K`, `Ki`, `Mi`, …
    in SI) raises ValueError, whatever the sign, digits and unit. -/
theorem s2b_rejects_foreign_prefix (s : Sys) (t : Text) (hwf : NumWF t.ip t.fp)
    (hp : t.pfx ∈ allPrefixes) (hn : t.pfx ∉ s.prefixes) (ri : Bool) :
    stringToBytes s.key (render t) ri = .error .valueError := by
  obtain ⟨h1, h2⟩ := lemma_foreign_tail s t.pfx hp hn (t.unit.chars ++ nlChars false)
  rw [render, renderNl, lemma_s2b_number s t.sign t.ip t.fp _ hwf h1 ri, h2]

/-- `16.1kB`, SI: admitted, in range; exact quantity 161·1000/10 = 16100 (Python's binary64
    product gives 16100.000000000002 and, with return_int, 16101: known finding N3-float-rounding) -/
example :
    let t : Text := ⟨none, ['1', '6'], some ['1'], ['k'], .B⟩
    t.Admitted .si ∧ specMult .si t.pfx = some 1000 ∧ t.InRange 1000 ∧
    render t = ['1', '6', '.', '1', 'k', 'B'] ∧
    stringToBytes Sys.si.key (render t) false = .ok (.float 161000 10) ∧
    stringToBytes Sys.si.key (render t) true = .ok (.int 16100) := by
  refine ⟨⟨by decide, by decide⟩, by decide, ⟨by decide +kernel, by decide +kernel, by decide +kernel⟩,
    by decide, by decide +kernel, by decide +kernel⟩

/-- finding D5: `1kib` in mixed mode is 1024 bits = 128 bytes -/
example : stringToBytes Sys.mixed.key ['1', 'k', 'i', 'b'] false = .ok (.float 1024 8) := by decide +kernel

/-- `-.5Gibit`, IEC -/
example : stringToBytes Sys.iec.key ['-', '.', '5', 'G', 'i', 'b', 'i', 't'] true = .ok (.int (-67108864)) := by
  decide +kernel

/-- finding N3-trailing-newline: `1KB\n` is rejected -/
example : stringToBytes Sys.iec.key ['1', 'K', 'B', '\n'] false = .error .valueError := by decide +kernel

/-- known finding N3-float-range: a 310-digit magnitude with return_int raises OverflowError
    (and is `inf` without), not ValueError -/
example :
    stringToBytes Sys.iec.key ('1' :: List.replicate 309 '0' ++ ['B']) true = .error .overflowError ∧
    stringToBytes Sys.iec.key ('1' :: List.replicate 309 '0' ++ ['B']) false = .ok (.inf false) := by
  decide +kernel

/-- rejected texts: foreign prefix, unknown system, malformed number, trailing text -/
example : stringToBytes Sys.iec.key ['1', 'k', 'B'] false = .error .valueError ∧
    stringToBytes ['s', 'i'] ['1', 'B'] false = .error .valueError ∧
    stringToBytes Sys.si.key ['1', '.', 'B'] true = .error .valueError ∧
    stringToBytes Sys.si.key ['1', 'B', '\n', '\n'] true = .error .valueError := by decide +kernel

example : (['k'] : List Char) ∈ allPrefixes ∧ (['k'] : List Char) ∉ Sys.iec.prefixes := by decide +kernel

theorem lemma_magText_dec (ip : List Char) (fp : Option (List Char)) :
    magText (.dec ip fp) = some (ip ++ dotFrac fp) := by
  cases fp <;> simp [magText, dotFrac]

theorem lemma_parseBytesInfo_nil : parseBytesInfo [] = none := by
  simp [parseBytesInfo, dropP]

/-- **Precedence of the explicit figure** — a size field `<junk><number><ws><unit><ws>(<ws>N<ws>bytes<ws>)<anything>`
    (as qemu-img prints `1.5G (1610612736 bytes)`, `1 GiB (1073741824 bytes)`): whatever the
    human-readable number and unit say — even a unit string_to_bytes would reject — the result is `N`.
    `junk` contains no digit and no dot; `unit` is any run of word characters (possibly empty) that
    does not start with a digit when it touches the number; `bytes` in either case. -/
theorem qemu_bytes_precedence (pre ip : List Char) (fp : Option (List Char))
    (ws1 unit ws2 ws3 n ws4 : List Char) (b y t e s : Char) (ws5 tl : List Char)
    (hpre : ∀ c ∈ pre, isDigit c = false ∧ c ≠ '.') (hwf : NumWF ip fp)
    (h1 : AllSpace ws1) (hu : AllWord unit)
    (hud : ws1 = [] → ∀ c r, unit = c :: r → isDigit c = false)
    (h2 : AllSpace ws2) (h3 : AllSpace ws3) (hn : AllDigits n) (hne : n ≠ [])
    (h4 : AllSpace ws4) (h4ne : ws4 ≠ []) (hb : IsBytesWord b y t e s) (h5 : AllSpace ws5) :
    extractBytes (pre ++ (ip ++ dotFrac fp ++
        (ws1 ++ (unit ++ (ws2 ++ '(' :: bytesTail ws3 n ws4 b y t e s ws5 tl))))) =
      .ok (.int (natOfDigits n)) := by
  generalize hR : ws1 ++ (unit ++ (ws2 ++ '(' :: bytesTail ws3 n ws4 b y t e s ws5 tl)) = R
  have hend : NumEnd R := by
    subst hR
    refine lemma_noHead_append _ ws1 _ (fun c hc => (lemma_space_all _ h1 c hc).num) fun hw => ?_
    cases unit with
    | cons u us =>
      exact lemma_noHead_cons _ u _ ((lemma_numStart u).mpr ⟨hud hw u us rfl, (lemma_word_all _ hu u (by simp)).dot⟩)
    | nil =>
      exact lemma_noHead_append _ ws2 _ (fun c hc => (lemma_space_all _ h2 c hc).num)
        (fun _ => lemma_noHead_cons _ '(' _ (by decide))
  have hsci : NoSci R := by
    -- up to the first digit of `n` (at least two characters) there is no sign
    have e : R = (ws1 ++ (unit ++ (ws2 ++ ('(' :: (ws3 ++ n))))) ++
        (ws4 ++ (b :: y :: t :: e :: s :: (ws5 ++ ')' :: tl))) := by
      subst hR; simp [bytesTail, List.append_assoc]
    rw [e]
    refine lemma_noSci_of_prefix _ _ ?_ (Or.inl ?_)
    · simp only [List.forall_mem_append, List.forall_mem_cons]
      exact ⟨fun c hc => (lemma_space_all _ h1 c hc).sign, fun c hc => (lemma_word_all _ hu c hc).sign,
        fun c hc => (lemma_space_all _ h2 c hc).sign, by decide, fun c hc => (lemma_space_all _ h3 c hc).sign,
        fun c hc => (lemma_word_cases c (lemma_digit_word c (hn c hc))).sign⟩
    · obtain ⟨d, ds, rfl⟩ := List.exists_cons_of_ne_nil hne
      simp; omega
  have hfind : findMag (pre ++ (ip ++ dotFrac fp ++ R)) = some (.dec ip fp, R) := by
    rw [lemma_findMag_skip pre _ hpre]; exact lemma_findMag_dec ip fp R hwf hend hsci
  have hinfo : parseBytesInfo (dropP isWord (dropP isSpace R)) = some n := by
    subst hR
    rw [lemma_dropP_all isSpace ws1 _ h1]
    cases unit with
    | nil =>
      simp only [List.nil_append]
      rw [lemma_dropP_all isSpace ws2 _ h2, lemma_dropP_id isSpace '(' _ (by decide),
        lemma_dropP_id isWord '(' _ (by decide)]
      exact lemma_parseBytesInfo [] ws3 n ws4 b y t e s ws5 tl (by intro c hc; simp at hc) h3 hn hne h4 h4ne hb h5
    | cons u us =>
      have hus : isSpace u = false := (lemma_word_all _ hu u (by simp)).space
      rw [List.cons_append, lemma_dropP_id isSpace u _ hus, ← List.cons_append]
      have : NoHead isWord (ws2 ++ '(' :: bytesTail ws3 n ws4 b y t e s ws5 tl) :=
        lemma_noHead_append _ ws2 _ (fun c hc => (lemma_space_all _ h2 c hc).word)
          (fun _ => lemma_noHead_cons _ '(' _ (by decide))
      rw [(lemma_span_append isWord (u :: us) _ hu this).2]
      exact lemma_parseBytesInfo ws2 ws3 n ws4 b y t e s ws5 tl h2 h3 hn hne h4 h4ne hb h5
  unfold extractBytes extractStep
  rw [hfind]
  simp only [extractAfter, hinfo]

/-- **Plain number** — a field that is just digits (`cluster_size: 65536`) is that number. -/
theorem qemu_plain_number (ds : List Char) (hd : AllDigits ds) (hne : ds ≠ []) :
    extractBytes ds = .ok (.int (natOfDigits ds)) := by
  have hfind := lemma_findMag_dec ds none [] ⟨hd, hne⟩ (by intro c r h; simp at h)
    (by intro e sg r2 h; simp at h)
  simp only [dotFrac, List.append_nil] at hfind
  unfold extractBytes extractStep
  rw [hfind]
  have hall : ds.all isDigit = true := by rw [List.all_eq_true]; exact hd
  simp [extractAfter, dropP, takeP, lemma_parseBytesInfo_nil, magText, intOfText, hne, hall]

/-- **Same arithmetic** — a human-readable field `<number><ws><unit>` without an explicit byte figure is
    converted by `string_to_bytes(<number><unit>, 'IEC', return_int=True)` (so `s2b_int_is_ceil_partial`
    etc. apply), a one-letter unit other than `B` first getting a `B` appended (`1.5G` means `1.5GB`). -/
theorem qemu_human_same_arithmetic (ip : List Char) (fp : Option (List Char)) (ws unit : List Char)
    (hwf : NumWF ip fp) (h1 : AllSpace ws) (hu : AllWord unit) (hune : unit ≠ [])
    (hud : ws = [] → ∀ c r, unit = c :: r → isDigit c = false) :
    extractBytes (ip ++ dotFrac fp ++ (ws ++ unit)) =
      stringToBytes Sys.iec.key
        (ip ++ dotFrac fp ++ (if unit.length = 1 ∧ unit ≠ ['B'] then unit ++ ['B'] else unit)) true := by
  obtain ⟨u, us, rfl⟩ := List.exists_cons_of_ne_nil hune
  have huw := lemma_word_cases u (hu u (by simp))
  have hend : NumEnd (ws ++ u :: us) :=
    lemma_noHead_append _ ws _ (fun c hc => (lemma_space_all _ h1 c hc).num)
      fun hw => lemma_noHead_cons _ u us ((lemma_numStart u).mpr ⟨hud hw u us rfl, huw.dot⟩)
  have hsci : NoSci (ws ++ u :: us) := by
    simpa using lemma_noSci_of_prefix (ws ++ u :: us) []
      (List.forall_mem_append.mpr ⟨fun c hc => (lemma_space_all _ h1 c hc).sign,
        fun c hc => (lemma_word_all _ hu c hc).sign⟩) (Or.inr rfl)
  have hfind := lemma_findMag_dec ip fp (ws ++ u :: us) hwf hend hsci
  have hsp : dropP isSpace (ws ++ u :: us) = u :: us := by
    rw [lemma_dropP_all isSpace ws _ h1]; exact lemma_dropP_id _ _ _ huw.space
  have hw := lemma_span_append isWord (u :: us) [] hu (by intro c r h; simp at h)
  simp only [List.append_nil] at hw
  unfold extractBytes extractStep
  rw [hfind]
  simp only [extractAfter, hsp, hw.1, hw.2, lemma_parseBytesInfo_nil, lemma_magText_dec]
  simp [Sys.key]

/-- non-vacuity: the three shapes on concrete fields -/
example :
    extractBytes "1.5G (1610612736 bytes)".toList = .ok (.int 1610612736) ∧
    extractBytes "64 KiB ( 5  BYTES )".toList = .ok (.int 5) ∧
    extractBytes "65536".toList = .ok (.int 65536) ∧
    extractBytes "196 KiB".toList = .ok (.int 200704) ∧
    extractBytes "1.5G".toList = .ok (.int 1610612736) ∧
    extractBytes "2k".toList = .error .valueError ∧
    sizeField "unavailable".toList = .ok (.int 0) := by
  -- the kernel is slow at `String.toList` of a literal: put the character lists there first
  rw [String.toList_ofList, String.toList_ofList, String.toList_ofList, String.toList_ofList,
    String.toList_ofList, String.toList_ofList, String.toList_ofList]
  decide +kernel

end Oslo.Units
