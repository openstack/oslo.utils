/-
C03 — format detection is exclusive, conservative about raw, and total.

Part 1: what `formats` / `format` can answer, and with which errors, for *any* wrapper state over
arbitrary inspectors (`IOps σ`).  Part 2, the real inspectors: which of them a wrapper
instantiates (allowed_formats), and what a `format_match` that answers true says about the
captured bytes, format by format (`signature_needed_*`).  The no-revision clause is in
`Props/C03Stable.lean` and `Props/C03All.lean`.
-/
import OsloModel.Wrapper
import OsloProofs.Lemmas.Acts
import OsloProofs.Lemmas.Capture
import OsloProofs.Lemmas.DoBlocks
namespace Oslo.Insp

variable {σ : Type}

/-- a `format_match` that returned `True` (an exception or `False` is not a match) -/
def isOkTrue : Except Err Bool → Bool
  | .ok true => true
  | _ => false

theorem lemma_matchList_ok (ops : IOps σ) : ∀ (l r : List σ),
    matchList ops l = .ok r → r = l.filter (fun i => isOkTrue (ops.fmatch i)) := by
  intro l
  induction l with
  | nil => intro r h; simp only [matchList, Except.ok.injEq] at h; simp [← h]
  | cons a l ih =>
    intro r h
    simp only [matchList] at h
    cases ha : ops.fmatch a with
    | error e => simp [ha] at h
    | ok b =>
      simp only [ha] at h
      cases hl : matchList ops l with
      | error e => simp [hl] at h
      | ok r' =>
        simp only [hl, Except.ok.injEq] at h
        have h1 := ih r' hl
        cases b <;> simp only [Bool.false_eq_true, if_false, if_true] at h <;> subst h <;>
          simp [ha, isOkTrue, h1]

theorem lemma_matchList_total (ops : IOps σ) : ∀ (l : List σ), (∀ i ∈ l, ∃ b, ops.fmatch i = .ok b) →
    ∃ r, matchList ops l = .ok r := by
  intro l
  induction l with
  | nil => intro _; exact ⟨[], rfl⟩
  | cons a l ih =>
    intro hl
    obtain ⟨b, hb⟩ := hl a (by simp)
    obtain ⟨r, hr⟩ := ih (fun i hi => hl i (by simp [hi]))
    exact ⟨if b then a :: r else r, by simp only [matchList, hb, hr]⟩

/-- the non-raw inspectors that currently match -/
def matchesOf (ops : IOps σ) (w : Wrap σ) : List σ :=
  (w.insps.filter (fun i => ops.name i != "raw")).filter (fun i => isOkTrue (ops.fmatch i))

/-- `formats` answers: what it is when it answers at all -/
theorem formats_spec (ops : IOps σ) (w : Wrap σ) (l : List σ) (h : w.formats ops = .ok (some l)) :
    (matchesOf ops w ≠ [] → l = matchesOf ops w) ∧
    (matchesOf ops w = [] → l = w.insps.filter (fun i => ops.name i == "raw")) ∧
    ((w.insps.filter (fun i => ops.name i != "raw")).all ops.complete = true ∨ w.finished = true) := by
  unfold Wrap.formats at h
  obtain ⟨ms, hms, h⟩ := lemma_bind_eq_ok h
  have hm' : ms = matchesOf ops w := lemma_matchList_ok ops _ _ hms
  obtain ⟨hdec, h⟩ := (lemma_ite_eq_iff (fun h => by cases h)).mp h
  have hdec' : (w.insps.filter (fun i => ops.name i != "raw")).all ops.complete = true ∨ w.finished = true := by
    cases hc : (w.insps.filter (fun i => ops.name i != "raw")).all ops.complete
    · simpa [hc] using hdec
    · exact Or.inl rfl
  by_cases hemp : ms.isEmpty = true
  · rw [if_pos hemp] at h
    exact ⟨fun hne => absurd (hm' ▸ List.isEmpty_iff.mp hemp) hne, fun _ => (Option.some.inj (Except.ok.inj h)).symm, hdec'⟩
  · rw [if_neg hemp] at h
    exact ⟨fun _ => hm' ▸ (Option.some.inj (Except.ok.inj h)).symm,
      fun he => absurd (List.isEmpty_iff.mpr (hm' ▸ he)) hemp, hdec'⟩

/-- **formats_raw_exclusive** — raw is never reported together with another format, and only when
    nothing else matches -/
theorem formats_raw_exclusive (ops : IOps σ) (w : Wrap σ) (l : List σ) (h : w.formats ops = .ok (some l)) :
    (∀ i ∈ l, ops.name i ≠ "raw" ∧ ops.fmatch i = .ok true) ∨
    ((∀ i ∈ l, ops.name i = "raw") ∧ matchesOf ops w = []) := by
  obtain ⟨h1, h2, _⟩ := formats_spec ops w l h
  by_cases he : matchesOf ops w = []
  · right
    refine ⟨?_, he⟩
    rw [h2 he]
    intro i hi
    simpa using (List.mem_filter.mp hi).2
  · left
    rw [h1 he]
    intro i hi
    simp only [matchesOf, List.mem_filter, bne_iff_ne, ne_eq] at hi
    refine ⟨hi.1.2, ?_⟩
    cases hfm : ops.fmatch i with
    | error e => simp [hfm, isOkTrue] at hi
    | ok b => cases b <;> simp [hfm, isOkTrue] at hi ⊢

theorem lemma_format_some (ops : IOps σ) (w : Wrap σ) (i : σ) (h : w.format ops = .ok (some i)) :
    w.formats ops = .ok (some [i]) := by
  unfold Wrap.format at h
  obtain ⟨o, ho, h⟩ := lemma_bind_eq_ok h
  match o, h with
  | some [x], h => cases h; exact ho

/-- **format_specific_unique** — a specific (non-raw) answer from `format` matches, and it is the
    only non-raw inspector that matches -/
theorem format_specific_unique (ops : IOps σ) (w : Wrap σ) (i : σ)
    (h : w.format ops = .ok (some i)) (hr : ops.name i ≠ "raw") :
    ops.fmatch i = .ok true ∧ matchesOf ops w = [i] := by
  have hf := lemma_format_some ops w i h
  have hi : i ∈ [i] := List.mem_singleton.mpr rfl
  rcases formats_raw_exclusive ops w [i] hf with hl | ⟨hl, _⟩
  · obtain ⟨h1, h2, _⟩ := formats_spec ops w [i] hf
    refine ⟨(hl i hi).2, ?_⟩
    by_cases he : matchesOf ops w = []
    · rw [h2 he] at hi
      exact absurd (by simpa using (List.mem_filter.mp hi).2) hr
    · exact (h1 he).symm
  · exact absurd (hl i hi) hr

/-- **multi_match_raises** — whenever a decision is due and two or more non-raw formats match,
    `format` raises ImageFormatError -/
theorem multi_match_raises (ops : IOps σ) (w : Wrap σ) (l : List σ)
    (h : w.formats ops = .ok (some l)) (h2 : 2 ≤ (matchesOf ops w).length) :
    w.format ops = .error .imageFormat := by
  have hne : matchesOf ops w ≠ [] := by
    intro he; rw [he] at h2; simp at h2
  have hl := (formats_spec ops w l h).1 hne
  unfold Wrap.format
  simp only [bind, Except.bind, h]
  subst hl
  match hm : matchesOf ops w, h2 with
  | a :: b :: rest, _ => rfl

/-- **raw_only_when_none** — `format` answers raw only if no non-raw inspector matches -/
theorem raw_only_when_none (ops : IOps σ) (w : Wrap σ) (i : σ)
    (h : w.format ops = .ok (some i)) (hr : ops.name i = "raw") : matchesOf ops w = [] := by
  rcases formats_raw_exclusive ops w [i] (lemma_format_some ops w i h) with hl | ⟨_, he⟩
  · exact absurd hr (hl i (List.mem_singleton.mpr rfl)).1
  · exact he

/-- **format_error_kinds** (the wrapper-level part of "detection is total") — `formats` / `format` fail only with ImageFormatError, unless an
    inspector's own format_match raises -/
theorem format_error_kinds (ops : IOps σ) (w : Wrap σ) (e : Err) (h : w.format ops = .error e)
    (hm : ∀ i ∈ w.insps, ∃ b, ops.fmatch i = .ok b) : e = .imageFormat := by
  unfold Wrap.format at h
  simp only [bind, Except.bind] at h
  cases hf : w.formats ops with
  | error e' =>
    exfalso
    unfold Wrap.formats at hf
    simp only [bind, Except.bind] at hf
    split at hf
    · rename_i e'' hfm
      obtain ⟨r, hr⟩ := lemma_matchList_total ops (w.insps.filter (fun i => ops.name i != "raw"))
        (fun i hi => hm i (List.mem_filter.mp hi).1)
      rw [hr] at hfm
      simp at hfm
    · split at hf <;> (try split at hf) <;> simp [pure, Except.pure] at hf
  | ok o =>
    simp only [hf] at h
    match o, h with
    | none, h => simp [pure, Except.pure] at h
    | some [], h => simp only [throw, throwThe, MonadExceptOf.throw, Except.error.injEq] at h; exact h.symm
    | some [x], h => simp [pure, Except.pure] at h
    | some (a :: b :: r), h => simp only [throw, throwThe, MonadExceptOf.throw, Except.error.injEq] at h; exact h.symm

theorem lemma_mk'_mem {expected : Option String} {allowed : List String} {i : Insp}
    (hi : i ∈ (Wrap.mk' expected allowed).insps) :
    Insp.init i.fmt = some i ∧ (allowed = [] ∨ i.fmt.name ∈ allowed) := by
  simp only [Wrap.mk', List.mem_filterMap, List.mem_filter, Bool.and_eq_true, Bool.or_eq_true,
    List.isEmpty_iff, List.contains_eq_mem, decide_eq_true_eq] at hi
  obtain ⟨f, ⟨_, _, hf⟩, hinit⟩ := hi
  have := lemma_init_fmt hinit
  subst this
  exact ⟨hinit, hf⟩

/-- **allowed_respected** — only formats named in allowed_formats are instantiated -/
theorem allowed_respected (expected : Option String) (allowed : List String) (hne : allowed ≠ []) :
    ∀ i ∈ (Wrap.mk' expected allowed).insps, i.fmt.name ∈ allowed := by
  intro i hi
  exact (lemma_mk'_mem hi).2.resolve_left hne

/-- with no restriction, all ten formats of the generated ALL_FORMATS are considered -/
theorem all_formats_considered (expected : Option String) :
    (Wrap.mk' expected []).insps.map (fun i => i.fmt.name) = Gen.allFormats := by
  show (Wrap.mk' none []).insps.map (fun i => i.fmt.name) = Gen.allFormats
  rfl

/-- a specific answer implies the format's signature bytes are in the captured region (one theorem
    per non-raw format, each for any inspector state of that format) -/
theorem signature_needed_vhd (s : Insp) (hf : s.fmt = .vhd) (h : formatMatch s = .ok true) :
    ∃ r, s.region "header" = .ok r ∧ r.data.take 8 = ascii "conectix" := by
  rw [lemma_formatMatch_vhd s hf] at h
  obtain ⟨r, hr, h⟩ := lemma_bind_eq_ok h
  have hl8 : (ascii "conectix").length = 8 := by rw [ascii_ofList]; rfl
  exact ⟨r, hr, hl8 ▸ (lemma_startsWith_iff _ _).mp (Except.ok.inj h)⟩

theorem signature_needed_vhdx (s : Insp) (hf : s.fmt = .vhdx) (h : formatMatch s = .ok true) :
    ∃ r, s.region "ident" = .ok r ∧ r.data.take 8 = ascii "vhdxfile" := by
  rw [lemma_formatMatch_vhdx s hf] at h
  obtain ⟨r, hr, h⟩ := lemma_bind_eq_ok h
  have hl8 : (ascii "vhdxfile").length = 8 := by rw [ascii_ofList]; rfl
  exact ⟨r, hr, hl8 ▸ (lemma_startsWith_iff _ _).mp (Except.ok.inj h)⟩

theorem signature_needed_luks (s : Insp) (hf : s.fmt = .luks) (h : formatMatch s = .ok true) :
    ∃ r, s.region "header" = .ok r ∧ slice r.data 0 6 = [0x4c, 0x55, 0x4b, 0x53, 0xba, 0xbe] := by
  rw [lemma_formatMatch_luks s hf] at h
  obtain ⟨r, hr, h⟩ := lemma_bind_eq_ok h
  exact ⟨r, hr, eq_of_beq (Except.ok.inj h)⟩

theorem signature_needed_qed (s : Insp) (hf : s.fmt = .qed) (h : formatMatch s = .ok true) :
    ∃ r, s.region "header" = .ok r ∧ r.complete = true ∧ r.data.take 4 = [0x51, 0x45, 0x44, 0x00] := by
  rw [lemma_formatMatch_qed s hf] at h
  obtain ⟨r, hr, h⟩ := lemma_bind_eq_ok h
  cases hc : r.complete <;> rw [hc] at h
  · cases h
  · exact ⟨r, hr, hc, (lemma_startsWith_iff _ _).mp (Except.ok.inj h)⟩

theorem signature_needed_iso (s : Insp) (hf : s.fmt = .iso) (h : formatMatch s = .ok true) :
    s.complete = true ∧ ∃ r, s.region "header" = .ok r ∧
      (slice r.data 1 6 = ascii "CD001" ∨ slice r.data 1 6 = ascii "NSR02" ∨ slice r.data 1 6 = ascii "NSR03") := by
  rw [lemma_formatMatch_iso s hf] at h
  cases hc : s.complete <;> rw [hc] at h
  · cases h
  · obtain ⟨r, hr, h⟩ := lemma_bind_eq_ok h
    have h : (slice r.data 1 6 == ascii "CD001" || slice r.data 1 6 == ascii "NSR02" ||
        slice r.data 1 6 == ascii "NSR03") = true := Except.ok.inj h
    simp only [Bool.or_eq_true, beq_iff_eq, or_assoc] at h
    exact ⟨rfl, r, hr, h⟩

theorem signature_needed_qcow2 (s : Insp) (hf : s.fmt = .qcow2) (h : formatMatch s = .ok true) :
    ∃ r, s.region "header" = .ok r ∧ r.complete = true ∧ s.qcowInfo.isSome = true := by
  rw [lemma_formatMatch_qcow2 s hf] at h
  obtain ⟨r, hr, h⟩ := lemma_bind_eq_ok h
  cases hc : r.complete <;> rw [hc] at h
  · cases h
  · exact ⟨r, hr, hc, Except.ok.inj h⟩

theorem signature_needed_vdi (s : Insp) (hf : s.fmt = .vdi) (h : formatMatch s = .ok true) :
    ∃ r, s.region "header" = .ok r ∧ r.complete = true ∧
      unpackLE 4 (slice r.data 0x40 0x44) = .ok 0xbeda107f := by
  rw [lemma_formatMatch_vdi s hf] at h
  obtain ⟨r, hr, h⟩ := lemma_bind_eq_ok h
  cases hc : r.complete <;> rw [hc] at h
  · cases h
  · obtain ⟨v, hu, h⟩ := lemma_bind_eq_ok (show (unpackLE 4 (slice r.data 0x40 0x44) >>= _) = _ from h)
    exact ⟨r, hr, hc, by rw [hu, eq_of_beq (Except.ok.inj h)]⟩

theorem signature_needed_gpt (s : Insp) (hf : s.fmt = .gpt) (h : formatMatch s = .ok true) :
    ∃ m, s.region "mbr" = .ok m ∧ m.complete = true ∧
      unpackLE 2 (slice m.data 510 512) = .ok Gen.gptMbrSignature := by
  unfold formatMatch at h
  rw [hf] at h
  obtain ⟨m, hr, h⟩ := lemma_bind_eq_ok h
  cases hc : m.complete <;> rw [hc] at h
  · cases h
  · refine ⟨m, hr, hc, ?_⟩
    simp only [Bool.not_true, Bool.false_eq_true, if_false] at h
    split at h
    · obtain ⟨v, hu, h⟩ := lemma_bind_eq_ok h
      have h : (v == Gen.gptMbrSignature && _) = true := Except.ok.inj h
      rw [hu, eq_of_beq (Bool.and_eq_true_iff.mp h).1]
    · cases h

/-- VMDK in sparse mode (a header region exists): a match needs the `KDMV` magic -/
theorem signature_needed_vmdk (s : Insp) (hf : s.fmt = .vmdk) (r : Region)
    (hr : lookupR "header" s.regions = some r) (h : formatMatch s = .ok true) :
    r.data.take 4 = kdmv := by
  unfold formatMatch at h
  rw [hf] at h
  simp only [hr] at h
  have hl : kdmv.length = 4 := by rw [kdmv, ascii_ofList]; rfl
  exact hl ▸ (lemma_startsWith_iff _ _).mp (Except.ok.inj h)

/-- raw matches everything: it is the inspector `formats` falls back on, never a specific answer by signature -/
theorem raw_matches_everything (s : Insp) (hf : s.fmt = .raw) : formatMatch s = .ok true := by
  simp [formatMatch, hf]

end Oslo.Insp
