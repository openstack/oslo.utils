/-
C11 — address validators accept exactly well-formed values and never raise.

The property theorems, with the definitions only they need (`hexDig`, `renderGroup`, `N5Class`,
`StrictPrefixOK`, `HexPair`) and the `lemma_` helpers that tie them to `OsloProofs/Lemmas/C11*.lean`,
where the parsers are analysed and the shared definitions live (`renderOctet`, `renderQuad`, `joinSep`,
`IsGroup`, `groupVal`, `StrictDec`, `AddrOK`, `MaskOK`, `PrefixOK`).  Every theorem quantifies over all
texts (`List Char`, i.e. every Python str without lone surrogates) or all numbers it talks about.

Totality ("never raises") is by construction: every model function is a total Lean function that
returns a Bool; that the implementation never answers with an exception where the model answers a
Bool is the correspondence / search obligation.

What is NOT proved here (covered by the correspondence and the search only): a full grammar
characterisation of `isValidIPv6` (accept ⇒ has one of the rendered shapes) and of the inet_aton part
of `isValidIP` (short / hex / octal forms, trailing text after white space = known finding
C11-ip-inet-aton-trailing-text).
-/
import OsloProofs.Lemmas.C11Cidr
import OsloProofs.Lemmas.C11V6
import OsloProofs.Lemmas.C11Aton
namespace Oslo.Net

/-! ### is_valid_ipv4 (strict) -/

/-- `is_valid_ipv4` accepts exactly the canonical dotted quads `'%d.%d.%d.%d'` with four octets below 256:
    four parts, ASCII digits only, no leading zero, nothing before, between or after. -/
theorem ipv4_accept_iff_canonical (s : List Char) :
    isValidIPv4 s = true ↔
      ∃ a b c d, a < 256 ∧ b < 256 ∧ c < 256 ∧ d < 256 ∧ s = renderQuad a b c d := by
  constructor
  · intro h
    unfold isValidIPv4 at h
    split at h
    · cases h
    · cases hv : strToInt4 s with
      | error e => rw [hv] at h; cases h
      | ok v =>
        obtain ⟨q, hq, _⟩ := lemma_strToInt4_ok s v hv
        obtain ⟨a, b, c, d, ha, hb, hc, hd, e, _⟩ := lemma_pton4_some hq
        exact ⟨a, b, c, d, ha, hb, hc, hd, e⟩
  · rintro ⟨a, b, c, d, ha, hb, hc, hd, rfl⟩
    rw [isValidIPv4, lemma_renderQuad_isEmpty, lemma_strToInt4_render ha hb hc hd]
    rfl

/-- the rendering used above is ordinary decimal notation -/
theorem renderOctet_is_decimal : ∀ n, n < 256 → renderOctet n = Nat.toDigits 10 n := by
  have hd : ∀ x, x < 10 → dig x = Nat.digitChar x := by decide
  have m10 : ∀ n, n % 10 < 10 := fun n => Nat.mod_lt n (by decide)
  intro n hn
  unfold renderOctet
  split
  · rename_i h
    rw [Nat.toDigits_of_lt_base h, hd n h]
  · rename_i h1
    rw [Nat.toDigits_of_base_le (by decide) (Nat.le_of_not_lt h1)]
    split
    · rename_i h2
      have hq : n / 10 < 10 := Nat.div_lt_of_lt_mul h2
      rw [Nat.toDigits_of_lt_base hq, hd _ hq, hd _ (m10 n)]
      rfl
    · rename_i h2
      have hq : 10 ≤ n / 10 := (Nat.le_div_iff_mul_le (by decide)).2 (Nat.le_of_not_lt h2)
      have hq2 : n / 10 / 10 < 10 :=
        Nat.div_lt_of_lt_mul (Nat.div_lt_of_lt_mul (Nat.lt_trans hn (by decide)))
      rw [Nat.toDigits_of_base_le (by decide) hq, Nat.toDigits_of_lt_base hq2,
        show n / 100 = n / 10 / 10 from (Nat.div_div_eq_div_mul n 10 10).symm, hd _ hq2, hd _ (m10 _),
        hd _ (m10 n)]
      rfl

-- a literal unifies with `String.ofList _`; this spares the kernel decoding it
example : isValidIPv4 "192.168.0.255".toList = true := by rw [String.toList_ofList]; decide +kernel
example : "192.168.0.255".toList = renderQuad 192 168 0 255 := by rw [String.toList_ofList]; decide +kernel
example : isValidIPv4 "192.168.0.256".toList = false := by rw [String.toList_ofList]; decide +kernel
example : isValidIPv4 "192.168.00.1".toList = false := by rw [String.toList_ofList]; decide +kernel
example : isValidIPv4 "192.168.1".toList = false := by rw [String.toList_ofList]; decide +kernel
example : isValidIPv4 "0x7f.0.0.1".toList = false := by rw [String.toList_ofList]; decide +kernel
example : isValidIPv4 "1.2.3.4\n".toList = false := by rw [String.toList_ofList]; decide +kernel

/-! ### is_valid_ipv6 -/

/-- the hex digit with value `k` (lower case) -/
def hexDig (k : Nat) : Char := if k < 10 then Char.ofNat (48 + k) else Char.ofNat (87 + k)

/-- `'%x' % g` for a 16-bit group -/
def renderGroup (g : Nat) : List Char :=
  if g < 16 then [hexDig g]
  else if g < 256 then [hexDig (g / 16), hexDig (g % 16)]
  else if g < 4096 then [hexDig (g / 256), hexDig (g / 16 % 16), hexDig (g % 16)]
  else [hexDig (g / 4096), hexDig (g / 256 % 16), hexDig (g / 16 % 16), hexDig (g % 16)]

theorem lemma_hexDig : ∀ k, k < 16 → isHex (hexDig k) = true ∧ hexVal (hexDig k) = k := by decide

theorem lemma_hexDigs (ds : List Nat) (h : ∀ d ∈ ds, d < 16) :
    (∀ c ∈ ds.map hexDig, isHex c = true) ∧
    ∀ v, (ds.map hexDig).foldl (fun v c => v * 16 + hexVal c) v = ds.foldl (fun v d => v * 16 + d) v := by
  induction ds with
  | nil => exact ⟨nofun, fun _ => rfl⟩
  | cons d ds ih =>
    have hd := lemma_hexDig d (h d (by simp))
    have ih := ih (fun x hx => h x (by simp [hx]))
    refine ⟨fun c hc => ?_, fun v => ?_⟩
    · rcases List.mem_cons.1 hc with rfl | hc
      · exact hd.1
      · exact ih.1 c hc
    · simp only [List.map_cons, List.foldl_cons, hd.2]
      exact ih.2 _

theorem lemma_renderGroup (g : Nat) (h : g < 65536) : IsGroup (renderGroup g) ∧ groupVal (renderGroup g) = g := by
  have m16 : ∀ n, n % 16 < 16 := fun n => Nat.mod_lt n (by decide)
  have e256 : g / 256 = g / 16 / 16 := (Nat.div_div_eq_div_mul g 16 16).symm
  have e4096 : g / 4096 = g / 256 / 16 := (Nat.div_div_eq_div_mul g 256 16).symm
  unfold renderGroup
  -- in each case the value is recomposed digit by digit with `n / 16 * 16 + n % 16 = n`
  split
  · have d := lemma_hexDigs [g] (by simpa using ‹g < 16›)
    exact ⟨⟨Nat.le_refl 1, (by decide : 1 ≤ 4), d.1⟩, (d.2 0).trans (Nat.zero_add g)⟩
  · split
    · have d := lemma_hexDigs [g / 16, g % 16]
        (by simp [m16, Nat.div_lt_of_lt_mul (show g < 16 * 16 from ‹g < 256›)])
      refine ⟨⟨(by decide : 1 ≤ 2), (by decide : 2 ≤ 4), d.1⟩, (d.2 0).trans ?_⟩
      show (0 * 16 + g / 16) * 16 + g % 16 = g
      rw [Nat.zero_mul, Nat.zero_add, Nat.div_add_mod']
    · split
      · have d := lemma_hexDigs [g / 256, g / 16 % 16, g % 16]
          (by simp [m16, Nat.div_lt_of_lt_mul (show g < 256 * 16 from ‹g < 4096›)])
        refine ⟨⟨(by decide : 1 ≤ 3), (by decide : 3 ≤ 4), d.1⟩, (d.2 0).trans ?_⟩
        show ((0 * 16 + g / 256) * 16 + g / 16 % 16) * 16 + g % 16 = g
        rw [Nat.zero_mul, Nat.zero_add, e256, Nat.div_add_mod', Nat.div_add_mod']
      · have d := lemma_hexDigs [g / 4096, g / 256 % 16, g / 16 % 16, g % 16]
          (by simp [m16, Nat.div_lt_of_lt_mul (show g < 4096 * 16 from h)])
        refine ⟨⟨(by decide : 1 ≤ 4), Nat.le_refl 4, d.1⟩, (d.2 0).trans ?_⟩
        show (((0 * 16 + g / 4096) * 16 + g / 256 % 16) * 16 + g / 16 % 16) * 16 + g % 16 = g
        rw [Nat.zero_mul, Nat.zero_add, e4096, Nat.div_add_mod', e256, Nat.div_add_mod', Nat.div_add_mod']

theorem lemma_renderGroups (gs : List Nat) (h : ∀ g ∈ gs, g < 65536) :
    (∀ t ∈ gs.map renderGroup, IsGroup t) ∧ (gs.map renderGroup).map groupVal = gs := by
  constructor
  · intro t ht
    obtain ⟨g, hg, rfl⟩ := List.mem_map.1 ht
    exact (lemma_renderGroup g (h g hg)).1
  · rw [List.map_map, List.map_congr_left (f := groupVal ∘ renderGroup) (g := id)
      fun g hg => (lemma_renderGroup g (h g hg)).2, List.map_id]

theorem lemma_strToInt6_ok (s : List Char) :
    isOk (strToInt6 s) = true ↔ nul ∉ s ∧ ∃ g, pton6 s = some g := by
  unfold strToInt6
  by_cases hn : nul ∈ s
  · simp [hn, isOk]
  · cases hq : pton6 s <;> simp [hn, isOk]

/-- without a '%' the answer is the answer of `inet_pton6` on the whole text -/
theorem ipv6_noscope (s : List Char) (hp : '%' ∉ s) :
    isValidIPv6 s = true ↔ nul ∉ s ∧ ∃ g, pton6 s = some g := by
  cases s with
  | nil => simp [isValidIPv6, pton6]
  | cons c r =>
    rw [isValidIPv6, lemma_rsplitLast_of_notMem hp]
    exact lemma_strToInt6_ok _

theorem lemma_valid_of_pton6 {s : List Char} {g : List Nat} (h : pton6 s = some g) : isValidIPv6 s = true := by
  have hch := lemma_pton6_chars h
  exact (ipv6_noscope s fun hm => lemma_not_v6char.1 (hch _ hm)).2
    ⟨fun hm => lemma_not_v6char.2.2 (hch _ hm), g, h⟩

/-- alphabet: a valid IPv6 text without '%' consists of hex digits, ':' and '.' only -/
theorem ipv6_alphabet (s : List Char) (hp : '%' ∉ s) (h : isValidIPv6 s = true) :
    ∀ c ∈ s, isHex c = true ∨ c = ':' ∨ c = '.' := by
  obtain ⟨_, g, hg⟩ := (ipv6_noscope s hp).1 h
  exact lemma_pton6_chars hg

/-- Full rendering: eight groups of at most four hex digits joined by ':' are accepted, and parse to
    their values.  (Groups may use either case and leading zeros; `renderGroup` is one instance.) -/
theorem ipv6_accepts_full (ts : List (List Char)) (h : ∀ t ∈ ts, IsGroup t) (h8 : ts.length = 8) :
    isValidIPv6 (joinSep ':' ts) = true ∧ pton6 (joinSep ':' ts) = some (ts.map groupVal) := by
  have := lemma_pton6_full ts h
  rw [if_pos h8] at this
  exact ⟨lemma_valid_of_pton6 this, this⟩

/-- Every `::`-compression: `pre :: post` with at most seven groups in total is accepted and parses to
    `pre`, then zeros up to eight groups, then `post` (also `::`, `::x`, `x::`). -/
theorem ipv6_accepts_compressed (pre post : List (List Char)) (hp : ∀ t ∈ pre, IsGroup t)
    (hq : ∀ t ∈ post, IsGroup t) (h7 : pre.length + post.length ≤ 7) :
    let s := joinSep ':' pre ++ ':' :: ':' :: joinSep ':' post
    isValidIPv6 s = true ∧
    pton6 s = some (pre.map groupVal ++ List.replicate (8 - (pre.length + post.length)) 0 ++ post.map groupVal) := by
  have := lemma_pton6_compressed pre post hp hq
  rw [if_pos h7] at this
  exact ⟨lemma_valid_of_pton6 this, this⟩

/-- IPv4-suffixed rendering: six groups and a canonical dotted quad. -/
theorem ipv6_accepts_v4_suffix (pre : List (List Char)) (a b c d : Nat) (hp : ∀ t ∈ pre, IsGroup t)
    (ha : a < 256) (hb : b < 256) (hc : c < 256) (hd : d < 256) (h6 : pre.length = 6) :
    let s := joinSep ':' (pre ++ [renderQuad a b c d])
    isValidIPv6 s = true ∧ pton6 s = some (pre.map groupVal ++ [a * 256 + b, c * 256 + d]) := by
  have := lemma_pton6_plain pre _ _ hp (lemma_lastTok_quad ha hb hc hd)
  rw [if_pos (by rw [h6]; rfl)] at this
  exact ⟨lemma_valid_of_pton6 this, this⟩

/-- `::`-compressed IPv4-suffixed rendering (`::1.2.3.4`, `::ffff:1.2.3.4`, `64:ff9b::1.2.3.4`). -/
theorem ipv6_accepts_compressed_v4_suffix (pre post : List (List Char)) (a b c d : Nat)
    (hp : ∀ t ∈ pre, IsGroup t) (hq : ∀ t ∈ post, IsGroup t)
    (ha : a < 256) (hb : b < 256) (hc : c < 256) (hd : d < 256) (h5 : pre.length + post.length ≤ 5) :
    let s := joinSep ':' pre ++ ':' :: ':' :: joinSep ':' (post ++ [renderQuad a b c d])
    isValidIPv6 s = true ∧
    pton6 s = some (pre.map groupVal ++ List.replicate (6 - (pre.length + post.length)) 0 ++
                      (post.map groupVal ++ [a * 256 + b, c * 256 + d])) := by
  have := lemma_pton6_compressed_tok pre post _ _ hp hq (lemma_lastTok_quad ha hb hc hd)
  have ar : pre.length + (post.length + 2) ≤ 7 ∧
      8 - (pre.length + (post.length + 2)) = 6 - (pre.length + post.length) := by omega
  rw [show [a * 256 + b, c * 256 + d].length = 2 from rfl, if_pos ar.1, ar.2] at this
  exact ⟨lemma_valid_of_pton6 this, this⟩

/-- For every 128-bit value given as eight 16-bit groups: the full `%x` rendering, every
    `::`-compression of a run of zero groups, and the renderings with the last 32 bits as a dotted quad
    are accepted by `is_valid_ipv6` — and parse back to exactly the eight groups. -/
theorem ipv6_accepts_renderings (gs : List Nat) (hg : ∀ g ∈ gs, g < 65536) (h8 : gs.length = 8) :
    (isValidIPv6 (joinSep ':' (gs.map renderGroup)) = true ∧
      pton6 (joinSep ':' (gs.map renderGroup)) = some gs) ∧
    (∀ pre z post, gs = pre ++ List.replicate z 0 ++ post → 1 ≤ z →
      isValidIPv6 (joinSep ':' (pre.map renderGroup) ++ ':' :: ':' :: joinSep ':' (post.map renderGroup)) = true ∧
      pton6 (joinSep ':' (pre.map renderGroup) ++ ':' :: ':' :: joinSep ':' (post.map renderGroup)) = some gs) ∧
    (∀ pre a b c d, a < 256 → b < 256 → c < 256 → d < 256 → gs = pre ++ [a * 256 + b, c * 256 + d] →
      isValidIPv6 (joinSep ':' (pre.map renderGroup ++ [renderQuad a b c d])) = true ∧
      pton6 (joinSep ':' (pre.map renderGroup ++ [renderQuad a b c d])) = some gs) ∧
    (∀ pre z post a b c d, a < 256 → b < 256 → c < 256 → d < 256 →
      gs = pre ++ List.replicate z 0 ++ (post ++ [a * 256 + b, c * 256 + d]) → 1 ≤ z →
      isValidIPv6 (joinSep ':' (pre.map renderGroup) ++ ':' :: ':' ::
        joinSep ':' (post.map renderGroup ++ [renderQuad a b c d])) = true ∧
      pton6 (joinSep ':' (pre.map renderGroup) ++ ':' :: ':' ::
        joinSep ':' (post.map renderGroup ++ [renderQuad a b c d])) = some gs) := by
  refine ⟨?_, ?_, ?_, ?_⟩
  · have hr := lemma_renderGroups gs hg
    have := lemma_pton6_full (gs.map renderGroup) hr.1
    rw [List.length_map, if_pos h8, hr.2] at this
    exact ⟨lemma_valid_of_pton6 this, this⟩
  · intro pre z post e hz
    subst e
    rw [List.forall_mem_append, List.forall_mem_append] at hg
    have hpre := lemma_renderGroups pre hg.1.1
    have hpost := lemma_renderGroups post hg.2
    simp only [List.length_append, List.length_replicate] at h8
    have ar : pre.length + post.length ≤ 7 ∧ 8 - (pre.length + post.length) = z := by omega
    have := lemma_pton6_compressed (pre.map renderGroup) (post.map renderGroup) hpre.1 hpost.1
    rw [List.length_map, List.length_map, if_pos ar.1, hpre.2, hpost.2, ar.2] at this
    exact ⟨lemma_valid_of_pton6 this, this⟩
  · intro pre a b c d ha hb hc hd e
    subst e
    rw [List.forall_mem_append] at hg
    have hpre := lemma_renderGroups pre hg.1
    simp only [List.length_append, List.length_cons, List.length_nil] at h8
    have := lemma_pton6_plain (pre.map renderGroup) _ _ hpre.1 (lemma_lastTok_quad ha hb hc hd)
    rw [List.length_map, show [a * 256 + b, c * 256 + d].length = 2 from rfl, if_pos (by omega), hpre.2] at this
    exact ⟨lemma_valid_of_pton6 this, this⟩
  · intro pre z post a b c d ha hb hc hd e hz
    subst e
    rw [List.forall_mem_append, List.forall_mem_append, List.forall_mem_append] at hg
    have hpre := lemma_renderGroups pre hg.1.1
    have hpost := lemma_renderGroups post hg.2.1
    simp only [List.length_append, List.length_replicate, List.length_cons, List.length_nil] at h8
    have := lemma_pton6_compressed_tok (pre.map renderGroup) (post.map renderGroup) _ _ hpre.1 hpost.1
      (lemma_lastTok_quad ha hb hc hd)
    have ar : pre.length + (post.length + 2) ≤ 7 ∧ 8 - (pre.length + (post.length + 2)) = z := by omega
    rw [List.length_map, List.length_map, show [a * 256 + b, c * 256 + d].length = 2 from rfl,
      if_pos ar.1, hpre.2, hpost.2, ar.2] at this
    exact ⟨lemma_valid_of_pton6 this, this⟩

example : joinSep ':' ([0x2001, 0xdb8, 0, 0, 0, 0xff00, 0x42, 0x8329].map renderGroup)
    = "2001:db8:0:0:0:ff00:42:8329".toList := by rw [String.toList_ofList]; decide +kernel
example : isValidIPv6 "2001:db8::ff00:42:8329".toList = true := by rw [String.toList_ofList]; decide +kernel
example : isValidIPv6 "::ffff:192.0.2.128".toList = true := by rw [String.toList_ofList]; decide +kernel
example : isValidIPv6 "::".toList = true := by rw [String.toList_ofList]; decide +kernel

theorem lemma_groups_no_pct (ts : List (List Char)) (h : ∀ t ∈ ts, IsGroup t) : '%' ∉ joinSep ':' ts := by
  intro hm
  rcases lemma_joinSep_mem ':' ts '%' hm with h1 | ⟨t, ht, hc⟩
  · revert h1; decide
  · exact (lemma_hex_ne '%' ((h t ht).2.2 '%' hc)).2.2.1 rfl

/-- wrong group count, no `::`: groups joined by ':' are accepted only when there are exactly eight -/
theorem ipv6_rejects_group_count (ts : List (List Char)) (h : ∀ t ∈ ts, IsGroup t) (h8 : ts.length ≠ 8) :
    isValidIPv6 (joinSep ':' ts) = false := by
  rw [Bool.eq_false_iff]
  intro hv
  obtain ⟨_, g, hg⟩ := (ipv6_noscope _ (lemma_groups_no_pct ts h)).1 hv
  rw [lemma_pton6_full ts h, if_neg h8] at hg
  cases hg

/-- wrong group count with `::`: eight or more groups around a `::` are rejected -/
theorem ipv6_rejects_group_count_compressed (pre post : List (List Char)) (hp : ∀ t ∈ pre, IsGroup t)
    (hq : ∀ t ∈ post, IsGroup t) (h8 : 8 ≤ pre.length + post.length) :
    isValidIPv6 (joinSep ':' pre ++ ':' :: ':' :: joinSep ':' post) = false := by
  rw [Bool.eq_false_iff]
  intro hv
  have hpct : '%' ∉ joinSep ':' pre ++ ':' :: ':' :: joinSep ':' post := by
    simp [lemma_groups_no_pct pre hp, lemma_groups_no_pct post hq]
  obtain ⟨_, g, hg⟩ := (ipv6_noscope _ hpct).1 hv
  rw [lemma_pton6_compressed pre post hp hq, if_neg (by omega)] at hg
  cases hg

/-- over-long group: five hex digits at the start of the text or right after a ':' are rejected,
    whatever stands before and after (`lemma_pton6_long_group` is the general fact, for any token of
    more than four hex digits) -/
theorem ipv6_rejects_long_group (p rest : List Char) (h1 h2 h3 h4 h5 : Char)
    (hp : p = [] ∨ ∃ q, p = q ++ [':'])
    (e1 : isHex h1 = true) (e2 : isHex h2 = true) (e3 : isHex h3 = true) (e4 : isHex h4 = true)
    (e5 : isHex h5 = true) (hpct : '%' ∉ p ++ h1 :: h2 :: h3 :: h4 :: h5 :: rest) :
    isValidIPv6 (p ++ h1 :: h2 :: h3 :: h4 :: h5 :: rest) = false := by
  rw [Bool.eq_false_iff]
  intro hv
  obtain ⟨_, g, hg⟩ := (ipv6_noscope _ hpct).1 hv
  cases hg.symm.trans (lemma_pton6_long_group p [h1, h2, h3, h4, h5] rest hp
    (by simp [e1, e2, e3, e4, e5]) (Nat.lt_succ_self 4))

/-- two `::`: any text that contains `::` twice is rejected -/
theorem ipv6_rejects_two_double_colons (x y z : List Char)
    (hpct : '%' ∉ x ++ ':' :: ':' :: (y ++ ':' :: ':' :: z)) :
    isValidIPv6 (x ++ ':' :: ':' :: (y ++ ':' :: ':' :: z)) = false := by
  rw [Bool.eq_false_iff]
  intro hv
  obtain ⟨_, g, hg⟩ := (ipv6_noscope _ hpct).1 hv
  cases hg.symm.trans (lemma_pton6_two_dcolons x y z)

/-- scope id: with the text after the last '%' as scope id, the answer is "1 ≤ length ≤ 15 and the
    address part is valid on its own" -/
theorem ipv6_scope_iff (a sc : List Char) (hs : '%' ∉ sc) :
    isValidIPv6 (a ++ '%' :: sc) = true ↔
      1 ≤ sc.length ∧ sc.length ≤ 15 ∧ isOk (strToInt6 a) = true := by
  have hne : (a ++ '%' :: sc).isEmpty = false := by cases a <;> simp
  simp only [isValidIPv6, hne, lemma_rsplitLast_append '%' a sc hs]
  by_cases h1 : sc.length < 1
  · simp [h1]; omega
  · by_cases h2 : sc.length > 15
    · simp [h2]; omega
    · have a1 : 1 ≤ sc.length := by omega
      have a2 : sc.length ≤ 15 := by omega
      simp [h1, h2, a1, a2]

/-- a scope id of length 0 is rejected -/
theorem ipv6_rejects_empty_scope (a : List Char) : isValidIPv6 (a ++ ['%']) = false := by
  rw [Bool.eq_false_iff]; intro h
  have := (ipv6_scope_iff a [] (by simp)).1 h
  simp at this

/-- a scope id of more than 15 characters is rejected -/
theorem ipv6_rejects_long_scope (a sc : List Char) (hs : '%' ∉ sc) (hl : 15 < sc.length) :
    isValidIPv6 (a ++ '%' :: sc) = false := by
  rw [Bool.eq_false_iff]; intro h
  have := (ipv6_scope_iff a sc hs).1 h
  omega

example : isValidIPv6 "fe80::1%eth0".toList = true := by rw [String.toList_ofList]; decide +kernel
example : isValidIPv6 "fe80::1%".toList = false := by rw [String.toList_ofList]; decide +kernel
example : isValidIPv6 "fe80::1%0123456789abcdef".toList = false := by rw [String.toList_ofList]; decide +kernel
example : isValidIPv6 "1:2:3:4:5:6:7".toList = false := by rw [String.toList_ofList]; decide +kernel
example : isValidIPv6 "1::2::3".toList = false := by rw [String.toList_ofList]; decide +kernel
example : isValidIPv6 "12345::".toList = false := by rw [String.toList_ofList]; decide +kernel

/-! ### is_valid_ip -/

/-- `is_valid_ip` is "inet_aton form, or valid IPv6" (`is_valid_ipv4(address, strict=False) or is_valid_ipv6`) -/
theorem ip_iff (s : List Char) :
    isValidIP s = true ↔ isValidIPv4Aton s = true ∨ isValidIPv6 s = true := by
  simp [isValidIP]

/-- every valid IPv6 text (with or without scope id) is a valid IP -/
theorem ip_accepts_ipv6 (s : List Char) (h : isValidIPv6 s = true) : isValidIP s = true := by
  simp [isValidIP, h]

/-- `is_valid_ipv4(address, strict=False)` (inet_aton form) accepts everything the strict form accepts -/
theorem ipv4_nonstrict_accepts_strict (s : List Char) (h : isValidIPv4 s = true) : isValidIPv4Aton s = true := by
  obtain ⟨a, b, c, d, ha, hb, hc, hd, rfl⟩ := (ipv4_accept_iff_canonical s).1 h
  exact lemma_isValidIPv4Aton_quad ha hb hc hd

/-- the non-strict form never accepts text with a ':' or a NUL, nor the empty text -/
theorem ipv4_nonstrict_alphabet (s : List Char) (h : isValidIPv4Aton s = true) : s ≠ [] ∧ ':' ∉ s ∧ nul ∉ s := by
  unfold isValidIPv4Aton at h
  refine ⟨?_, ?_, ?_⟩
  · intro e; subst e; simp at h
  · intro hm; simp [hm] at h
  · intro hm; simp [hm] at h

example : isValidIPv4Aton "10".toList = true ∧ isValidIPv4 "10".toList = false := by rw [String.toList_ofList]; decide +kernel
example : isValidIPv4Aton "127.0.0.01".toList = true ∧ isValidIPv4 "127.0.0.01".toList = false := by rw [String.toList_ofList]; decide +kernel
example : isValidIPv4Aton "1.2.3.256".toList = false := by rw [String.toList_ofList]; decide +kernel

/-- every canonical dotted quad is a valid IP (through the inet_aton path) -/
theorem ip_accepts_canonical_ipv4 (a b c d : Nat) (ha : a < 256) (hb : b < 256) (hc : c < 256) (hd : d < 256) :
    isValidIP (renderQuad a b c d) = true := by
  rw [isValidIP, lemma_isValidIPv4Aton_quad ha hb hc hd]
  rfl

/-- whatever `is_valid_ipv4` (strict) accepts, `is_valid_ip` accepts -/
theorem ip_accepts_ipv4 (s : List Char) (h : isValidIPv4 s = true) : isValidIP s = true := by
  obtain ⟨a, b, c, d, ha, hb, hc, hd, rfl⟩ := (ipv4_accept_iff_canonical s).1 h
  exact ip_accepts_canonical_ipv4 a b c d ha hb hc hd

example : isValidIP "192.168.0.1".toList = true := by rw [String.toList_ofList]; decide +kernel
example : isValidIP "fe80::1%eth0".toList = true := by rw [String.toList_ofList]; decide +kernel
example : isValidIP "256.0.0.0".toList = false := by rw [String.toList_ofList]; decide +kernel
example : isValidIP "1.2.3.4.5".toList = false := by rw [String.toList_ofList]; decide +kernel
example : isValidIP "".toList = false := by rw [String.toList_ofList]; decide +kernel
/-- recorded interpretation: inet_aton numeric forms are accepted by `is_valid_ip` … -/
example : isValidIP "10".toList = true ∧ isValidIP "10.1".toList = true ∧ isValidIP "0x7f.1".toList = true := by
  repeat rw [String.toList_ofList]
  decide +kernel
/-- … and so is anything after an ASCII white-space character: known finding C11-ip-inet-aton-trailing-text
    (the model follows the code) -/
example : isValidIP "1.2.3.4 anything".toList = true ∧ isValidIP "1.2.3.4\n".toList = true := by repeat rw [String.toList_ofList]; decide +kernel

/-! ### is_valid_cidr / is_valid_ipv6_cidr -/

/-- `IPAddress(a, 4)` accepts exactly what `is_valid_ipv4` accepts -/
theorem addrOK_v4_iff (a : List Char) : AddrOK .v4 a ↔ isValidIPv4 a = true := by
  constructor
  · rintro ⟨x, hx⟩
    have hs := lemma_ipAddress_ok_noslash .v4 a x hx
    have hne : a.isEmpty = false := by
      cases a with
      | nil => rw [lemma_ipAddress_nil] at hx; cases hx
      | cons c r => rfl
    simp [ipAddress, hs] at hx
    simp [isValidIPv4, hne, hx, isOk]
  · intro h
    obtain ⟨p, q, r, t, hp, hq, hr, ht, rfl⟩ := (ipv4_accept_iff_canonical a).1 h
    have hs := lemma_renderQuad_notin hp hq hr ht '/' (by decide) (by decide)
    exact ⟨quadValue [p, q, r, t], by simp [ipAddress, hs, lemma_strToInt4_render hp hq hr ht]⟩

/-- `IPAddress(a, 6)` accepts exactly the texts without '%' that `is_valid_ipv6` accepts -/
theorem addrOK_v6_iff (a : List Char) : AddrOK .v6 a ↔ '%' ∉ a ∧ isValidIPv6 a = true := by
  constructor
  · rintro ⟨x, hx⟩
    have hs := lemma_ipAddress_ok_noslash .v6 a x hx
    rw [ipAddress, if_neg (by simpa using hs)] at hx
    obtain ⟨_, g, hg⟩ := (lemma_strToInt6_ok a).1 (by rw [hx]; rfl)
    exact ⟨fun hm => lemma_not_v6char.1 (lemma_pton6_chars hg _ hm), lemma_valid_of_pton6 hg⟩
  · rintro ⟨hp, h⟩
    obtain ⟨hn, g, hg⟩ := (ipv6_noscope a hp).1 h
    have hs : '/' ∉ a := fun hm => lemma_not_v6char.2.1 (lemma_pton6_chars hg _ hm)
    exact ⟨groupsValue g, by simp [ipAddress, hs, strToInt6, hn, hg]⟩

/-- the class of known finding N5: text after the '/' that Python `int()` accepts although it is not
    `[0-9]+` (white space, sign, underscores, non-ASCII digits) -/
def N5Class (p : List Char) : Prop := (∃ n, pyInt p = some n) ∧ ¬ StrictDec p

/-- the strict reading of a prefix: `[0-9]+` with value at most the width, or a netmask / hostmask address -/
def StrictPrefixOK (v : Ver) (p : List Char) : Prop :=
  (StrictDec p ∧ decVal p ≤ width v) ∨ (¬ StrictDec p ∧ MaskOK v p)

/-- Full characterisation of the model (= the code as it is): exactly one leading address part, a '/',
    and a prefix text read with Python `int()` semantics (this is where N5 lives) or a mask. -/
theorem cidr_iff (s : List Char) :
    isValidCidr s = true ↔
      ∃ a p, s = a ++ '/' :: p ∧ '/' ∉ a ∧
        ((isValidIPv4 a = true ∧ PrefixOK .v4 p) ∨ (('%' ∉ a ∧ isValidIPv6 a = true) ∧ PrefixOK .v6 p)) := by
  rw [lemma_cidr_iff]
  simp only [addrOK_v4_iff, addrOK_v6_iff]

/-- a missing or empty prefix, doubled or extra slashes: an accepted text has exactly one '/' and
    something after it -/
theorem cidr_requires_one_slash (s : List Char) (h : isValidCidr s = true) :
    ∃ a p, s = a ++ '/' :: p ∧ '/' ∉ a ∧ '/' ∉ p ∧ p ≠ [] := by
  obtain ⟨a, p, e, ha, hp⟩ := (lemma_cidr_iff s).1 h
  have := (hp.elim (fun h => lemma_prefix_shape h.2) (fun h => lemma_prefix_shape h.2))
  exact ⟨a, p, e, ha, this.2, this.1⟩

theorem cidr_rejects_no_slash (s : List Char) (h : '/' ∉ s) : isValidCidr s = false := by
  rw [Bool.eq_false_iff]; intro hv
  obtain ⟨a, p, e, _⟩ := cidr_requires_one_slash s hv
  exact h (by rw [e]; simp)

/-- an accepted text has one '/' only, so however it is cut at a '/', the rest has none and is not empty -/
theorem lemma_cidr_after_slash (a p : List Char) (h : isValidCidr (a ++ '/' :: p) = true) : '/' ∉ p ∧ p ≠ [] := by
  obtain ⟨a', p', e, ha', hp', hne⟩ := cidr_requires_one_slash _ h
  have hc := congrArg (List.count '/') e
  rw [List.count_append, List.count_cons_self, List.count_append, List.count_cons_self,
    List.count_eq_zero.2 ha', List.count_eq_zero.2 hp'] at hc
  have ha : '/' ∉ a := List.count_eq_zero.1 (by omega)
  obtain ⟨_, rfl⟩ := lemma_split_unique ha ha' e
  exact ⟨hp', hne⟩

theorem cidr_rejects_empty_prefix (a : List Char) : isValidCidr (a ++ ['/']) = false := by
  rw [Bool.eq_false_iff]; intro hv
  exact (lemma_cidr_after_slash a [] hv).2 rfl

theorem cidr_rejects_second_slash (a p : List Char) (hp : '/' ∈ p) : isValidCidr (a ++ '/' :: p) = false := by
  rw [Bool.eq_false_iff]; intro hv
  exact (lemma_cidr_after_slash a p hv).1 hp

theorem lemma_prefix_strict (v : Ver) (p : List Char) (hN5 : ¬ N5Class p)
    (hlen : Gen.maxStrDigits = 0 ∨ p.length ≤ Gen.maxStrDigits) : PrefixOK v p ↔ StrictPrefixOK v p := by
  unfold PrefixOK StrictPrefixOK
  by_cases hs : StrictDec p
  · rw [lemma_pyInt_strict p hs hlen]
    simp [hs]
  · have hnone : pyInt p = none := by
      cases hq : pyInt p with
      | none => rfl
      | some n => exact absurd ⟨⟨n, hq⟩, hs⟩ hN5
    simp [hs, hnone]

/-- `is_valid_cidr` over the strict prefix grammar.  PARTIAL: it excludes the known-finding class
    `N5Class p` (prefix text accepted by `int()` but not `[0-9]+`, where the code answers true — see
    `cidr_iff` and the examples below) and assumes the prefix is not longer than CPython's
    `int` digit limit (4300). Under these: the text is valid iff the address part is a valid IPv4
    (IPv6, without scope id) address and the prefix is `[0-9]+` with value ≤ 32 (≤ 128) or a
    netmask/hostmask of the same family. -/
theorem cidr_iff_strict_partial (a p : List Char) (ha : '/' ∉ a) (hN5 : ¬ N5Class p)
    (hlen : Gen.maxStrDigits = 0 ∨ p.length ≤ Gen.maxStrDigits) :
    isValidCidr (a ++ '/' :: p) = true ↔
      (isValidIPv4 a = true ∧ StrictPrefixOK .v4 p) ∨
      (('%' ∉ a ∧ isValidIPv6 a = true) ∧ StrictPrefixOK .v6 p) := by
  rw [cidr_iff]
  constructor
  · rintro ⟨a', p', e, ha', h⟩
    obtain ⟨rfl, rfl⟩ := lemma_split_unique ha ha' e
    simpa only [lemma_prefix_strict _ p hN5 hlen] using h
  · intro h
    exact ⟨a, p, rfl, ha, by simpa only [lemma_prefix_strict _ p hN5 hlen] using h⟩

/-- the mask branch is not empty: for every prefix length the corresponding netmask and hostmask pass
    netaddr's `is_netmask` / `is_hostmask` bit test (the converse — only these pass — is not proved here; the
    correspondence exercises masks with holes) -/
theorem masks_v4_accepted : ∀ k, k ≤ 32 →
    isNetmask .v4 (2 ^ 32 - 2 ^ (32 - k)) = true ∧ isHostmask (2 ^ (32 - k) - 1) = true := by decide +kernel

theorem masks_v6_accepted : ∀ k, k ≤ 128 →
    isNetmask .v6 (2 ^ 128 - 2 ^ (128 - k)) = true ∧ isHostmask (2 ^ (128 - k) - 1) = true := by decide +kernel

/-- `is_valid_ipv6_cidr`: a bare IPv6 address, or address '/' prefix (model semantics, `int()` prefix) -/
theorem cidr6_iff (s : List Char) :
    isValidIPv6Cidr s = true ↔
      ('/' ∉ s ∧ '%' ∉ s ∧ isValidIPv6 s = true) ∨
      ∃ a p, s = a ++ '/' :: p ∧ '/' ∉ a ∧ ('%' ∉ a ∧ isValidIPv6 a = true) ∧ PrefixOK .v6 p := by
  rw [lemma_cidr6_iff]
  simp only [addrOK_v6_iff]

/-- PARTIAL in the same way as `cidr_iff_strict_partial` (excludes N5, digit limit). -/
theorem cidr6_iff_strict_partial (a p : List Char) (ha : '/' ∉ a) (hN5 : ¬ N5Class p)
    (hlen : Gen.maxStrDigits = 0 ∨ p.length ≤ Gen.maxStrDigits) :
    isValidIPv6Cidr (a ++ '/' :: p) = true ↔
      ('%' ∉ a ∧ isValidIPv6 a = true) ∧ StrictPrefixOK .v6 p := by
  rw [cidr6_iff]
  constructor
  · rintro (⟨hno, _⟩ | ⟨a', p', e, ha', h⟩)
    · exact absurd (by simp) hno
    · obtain ⟨rfl, rfl⟩ := lemma_split_unique ha ha' e
      simpa only [lemma_prefix_strict _ p hN5 hlen] using h
  · intro h
    exact Or.inr ⟨a, p, rfl, ha, by simpa only [lemma_prefix_strict _ p hN5 hlen] using h⟩

/-- every prefix length 0..32 / 0..128 written in decimal is a strict prefix (non-vacuity of the
    strict branch), and the 33 IPv4 netmasks are masks -/
example : StrictPrefixOK .v4 "24".toList := Or.inl ⟨⟨by decide, by decide⟩, by decide⟩
example : ¬ N5Class "24".toList := fun h => h.2 ⟨by decide, by decide⟩
example : isValidCidr "10.0.0.0/24".toList = true := by rw [String.toList_ofList]; decide +kernel
example : isValidCidr "10.0.0.0/33".toList = false := by rw [String.toList_ofList]; decide +kernel
example : isValidCidr "10.0.0.0/255.255.255.0".toList = true := by rw [String.toList_ofList]; decide +kernel
example : isValidCidr "10.0.0.0/255.0.255.0".toList = false := by rw [String.toList_ofList]; decide +kernel
example : isValidCidr "2600::/64".toList = true := by rw [String.toList_ofList]; decide +kernel
example : isValidCidr "2600::/129".toList = false := by rw [String.toList_ofList]; decide +kernel
example : isValidIPv6Cidr "2600::".toList = true := by rw [String.toList_ofList]; decide +kernel
example : isValidIPv6Cidr "10.0.0.0/8".toList = false := by rw [String.toList_ofList]; decide +kernel
/-- the N5 witnesses: the model (like the code) accepts them; they are in `N5Class` -/
example : isValidCidr "10.0.0.0/8 ".toList = true := by rw [String.toList_ofList]; decide +kernel
example : isValidCidr "10.0.0.0/+8".toList = true := by rw [String.toList_ofList]; decide +kernel
example : isValidCidr "10.0.0.0/0_8".toList = true := by rw [String.toList_ofList]; decide +kernel
example : N5Class "8 ".toList := ⟨⟨8, by decide⟩, fun h => by have := h.2 ' ' (by decide); revert this; decide⟩

/-! ### is_valid_mac -/

/-- two hex digits -/
def HexPair (t : List Char) : Prop := ∃ a b, t = [a, b] ∧ isHex a = true ∧ isHex b = true

theorem lemma_macGo_iff (n : Nat) (s : List Char) :
    macGo n s = true ↔ ∃ g : List (List Char), g.length = n + 1 ∧ (∀ t ∈ g, HexPair t) ∧ s = joinSep ':' g := by
  induction n generalizing s with
  | zero =>
    constructor
    · intro h
      match s, h with
      | [a, b], h =>
        simp [macGo] at h
        exact ⟨[[a, b]], rfl, by intro t ht; simp at ht; subst ht; exact ⟨a, b, rfl, h.1, h.2⟩, by simp [joinSep]⟩
    · rintro ⟨g, hl, hp, rfl⟩
      match g, hl with
      | [t], _ =>
        obtain ⟨a, b, rfl, ha, hb⟩ := hp t (by simp)
        simp [joinSep, macGo, ha, hb]
  | succ n ih =>
    constructor
    · intro h
      match s, h with
      | a :: b :: c :: rest, h =>
        simp [macGo] at h
        obtain ⟨⟨⟨ha, hb⟩, hc⟩, hr⟩ := h
        obtain ⟨g, hl, hp, rfl⟩ := (ih rest).1 hr
        refine ⟨[a, b] :: g, by simp [hl], ?_, ?_⟩
        · intro t ht
          simp at ht
          rcases ht with rfl | ht
          · exact ⟨a, b, rfl, ha, hb⟩
          · exact hp t ht
        · rw [lemma_joinSep_cons (by intro e; simp [e] at hl)]; simp [hc]
    · rintro ⟨g, hl, hp, rfl⟩
      match g, hl with
      | t :: g', hl =>
        obtain ⟨a, b, rfl, ha, hb⟩ := hp t (by simp)
        have hg' : g'.length = n + 1 := by simpa using hl
        rw [lemma_joinSep_cons (by intro e; simp [e] at hg')]
        simp only [List.cons_append, List.nil_append, macGo, ha, hb, Bool.and_true, decide_true, Bool.true_and]
        exact (ih _).2 ⟨g', hg', fun t ht => hp t (by simp [ht]), rfl⟩

/-- `is_valid_mac` accepts exactly six groups of two hex digits (either case) separated by ':' —
    no other separator, nothing before or after (in particular no trailing newline, N2) -/
theorem mac_iff (s : List Char) :
    isValidMac s = true ↔
      ∃ g : List (List Char), g.length = 6 ∧ (∀ t ∈ g, HexPair t) ∧ s = joinSep ':' g :=
  lemma_macGo_iff 5 s

theorem lemma_macGo_length (n : Nat) (s : List Char) (h : macGo n s = true) : s.length = 3 * n + 2 := by
  induction n generalizing s with
  | zero =>
    match s, h with
    | [a, b], _ => rfl
  | succ n ih =>
    match s, h with
    | a :: b :: c :: rest, h =>
      simp only [macGo, Bool.and_eq_true] at h
      simp only [List.length_cons, ih rest h.2]
      omega

theorem mac_length (s : List Char) (h : isValidMac s = true) : s.length = 17 :=
  lemma_macGo_length 5 s h

/-- alphabet: every character of an accepted MAC is an ASCII hex digit or ':' — no non-ASCII character
    (ligature, fullwidth form, …) can stand for one or two of them -/
theorem mac_alphabet (s : List Char) (h : isValidMac s = true) :
    ∀ c ∈ s, (isHex c = true ∨ c = ':') ∧ c.toNat < 128 := by
  obtain ⟨g, _, hp, rfl⟩ := (mac_iff s).1 h
  intro c hc
  have key : isHex c = true ∨ c = ':' := by
    rcases lemma_joinSep_mem ':' g c hc with h1 | ⟨t, ht, hct⟩
    · exact Or.inr h1
    · obtain ⟨a, b, rfl, ha, hb⟩ := hp t ht
      simp at hct
      rcases hct with rfl | rfl
      · exact Or.inl ha
      · exact Or.inl hb
  refine ⟨key, ?_⟩
  rcases key with hh | rfl
  · simp [isHex, isDigit] at hh; omega
  · decide

example : isValidMac ['5','2',':','5','4',':','0','0',':','c','f',':','2','d',':', Char.ofNat 0xFB00] = false := by
  decide +kernel

example : isValidMac "52:54:00:cf:2D:31".toList = true := by rw [String.toList_ofList]; decide +kernel
example : isValidMac "52:54:00:cf:2d:31\n".toList = false := by rw [String.toList_ofList]; decide +kernel
example : isValidMac "52-54-00-cf-2d-31".toList = false := by rw [String.toList_ofList]; decide +kernel
example : isValidMac "52:54:00:cf:2d".toList = false := by rw [String.toList_ofList]; decide +kernel
example : isValidMac "52:54:00:cf:2d:31:00".toList = false := by rw [String.toList_ofList]; decide +kernel

/-! ### ports and ICMP numbers -/

/-- a str is a valid port exactly when Python `int()` reads it as a number in 0..65535 -/
theorem port_iff (s : List Char) :
    isValidPort (.str s) = true ↔ ∃ n : Int, pyInt s = some n ∧ 0 ≤ n ∧ n ≤ 65535 := by
  simp only [isValidPort, isIntInRange, toInt]
  cases pyInt s <;> simp

theorem port_int_iff (n : Int) : isValidPort (.int n) = true ↔ 0 ≤ n ∧ n ≤ 65535 := by
  simp [isValidPort, isIntInRange, toInt]

theorem port_none : isValidPort .none = false := rfl

theorem icmp_type_iff (s : List Char) :
    isValidIcmpType (.str s) = true ↔ ∃ n : Int, pyInt s = some n ∧ 0 ≤ n ∧ n ≤ 255 := by
  simp only [isValidIcmpType, isIntInRange, toInt]
  cases pyInt s <;> simp

theorem icmp_type_int_iff (n : Int) : isValidIcmpType (.int n) = true ↔ 0 ≤ n ∧ n ≤ 255 := by
  simp [isValidIcmpType, isIntInRange, toInt]

theorem icmp_type_none : isValidIcmpType .none = false := rfl

theorem icmp_code_iff (s : List Char) :
    isValidIcmpCode (.str s) = true ↔ ∃ n : Int, pyInt s = some n ∧ 0 ≤ n ∧ n ≤ 255 := by
  simp only [isValidIcmpCode, isIntInRange, toInt]
  cases pyInt s <;> simp

theorem icmp_code_int_iff (n : Int) : isValidIcmpCode (.int n) = true ↔ 0 ≤ n ∧ n ≤ 255 := by
  simp [isValidIcmpCode, isIntInRange, toInt]

theorem icmp_code_none : isValidIcmpCode .none = true := rfl

/-- On plain decimal numerals `[0-9]+` the answer is the numeric comparison.  PARTIAL only in that it
    assumes the numeral is within CPython's `int` digit limit (4300 digits; longer ones raise
    ValueError inside `int()` and are answered False). -/
theorem port_decimal_iff_partial (p : List Char) (h : StrictDec p)
    (hlen : Gen.maxStrDigits = 0 ∨ p.length ≤ Gen.maxStrDigits) :
    isValidPort (.str p) = true ↔ decVal p ≤ 65535 := by
  rw [port_iff, lemma_pyInt_strict p h hlen]
  simp
  omega

/-- every character of an accepted port text is white space, a sign, '_' or a decimal digit -/
theorem port_alphabet (s : List Char) (h : isValidPort (.str s) = true) : ∀ c ∈ s, IntChar c := by
  obtain ⟨n, hn, _⟩ := (port_iff s).1 h
  exact lemma_pyInt_chars s n hn

example : isValidPort (.str "65535".toList) = true := by rw [String.toList_ofList]; decide +kernel
example : isValidPort (.str "65536".toList) = false := by rw [String.toList_ofList]; decide +kernel
example : isValidPort (.str "-1".toList) = false := by rw [String.toList_ofList]; decide +kernel
example : isValidPort (.str " 80 ".toList) = true := by rw [String.toList_ofList]; decide +kernel
example : isValidPort (.str "8_0".toList) = true := by rw [String.toList_ofList]; decide +kernel
example : isValidPort (.str "80.0".toList) = false := by rw [String.toList_ofList]; decide +kernel
example : isValidPort (.str "".toList) = false := by rw [String.toList_ofList]; decide +kernel
example : isValidIcmpType (.str "255".toList) = true := by rw [String.toList_ofList]; decide +kernel
example : isValidIcmpType (.str "256".toList) = false := by rw [String.toList_ofList]; decide +kernel
example : StrictDec "65535".toList := ⟨by decide, by decide⟩

end Oslo.Net
