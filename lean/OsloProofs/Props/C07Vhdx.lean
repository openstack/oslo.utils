/-
C07 for VHDX — `virtual_size` equals the disk size the image declares: for every well-formed image
(`VhdxImage`, a byte-level description) and every chunking the answer is the 64-bit little-endian
value of the size item; and it is 0 for as long as that item has not been completely streamed.
Both are corollaries of the chunk-independence theorem `vhdx_chunk_independent_partial` (C01Vhdx).
-/
import OsloProofs.Props.C01Vhdx
import OsloProofs.Props.C07
namespace Oslo.Insp

/-- **vsize_vhdx** — for a well-formed VHDX image whose size item holds the little-endian encoding of
    `size` (any 64-bit value), `virtual_size` after the whole stream is `size`, for every chunking. -/
theorem vsize_vhdx (s0 : Insp) (h0 : Insp.init .vhdx = some s0) (chunks : List Bytes)
    (rc j mo mc i ioff size : Nat) (himg : VhdxImage chunks.flatten rc j mo mc i ioff)
    (hsize : slice chunks.flatten (mo + ioff) (mo + ioff + 8) = encodeLE 8 size) (hn : size < 2 ^ 64) :
    virtualSize (runChunks s0 chunks).1 = .ok (size : Int) := by
  obtain ⟨hf, hs⟩ := vhdx_hyps_of_image _ _ _ _ _ _ _ himg
  have hv := congrArg Verdict.vsize (vhdx_chunk_independent_partial s0 h0 chunks hf hs)
  rw [lemma_spec_image _ _ _ _ _ _ _ himg, hsize, vhdxVerdict, le_encode 8 size hn] at hv
  exact hv

theorem lemma_vsize_finish (q : Bytes) (r : Insp × Option Err) (h : VNext q r) :
    virtualSize r.1.finish = virtualSize r.1 := by
  have hv : ∀ t k regs, regs.all (fun p => !p.2.isEnd) = true →
      virtualSize (vst t regs k).finish = virtualSize (vst t regs k) := fun t k regs hE => by
    rw [lemma_finish_vst t k regs hE]; rfl
  obtain ⟨st, e⟩ := r
  cases e with
  | some e => obtain ⟨_, _, rfl⟩ := h; exact hv _ _ _ rfl
  | none => cases h <;> exact hv _ _ _ rfl

/-- **`virtual_size` at every point of the feed** (before `finish()`, whether or not the inspector has
    raised) is the specification's answer for the bytes streamed so far.  Same hypotheses as
    `vhdx_chunk_independent_partial`; same missing cases (KF_D7, KF_N4). -/
theorem vsize_feed_vhdx_partial (s0 : Insp) (h0 : Insp.init .vhdx = some s0) (chunks : List Bytes)
    (hf : VhdxForward chunks.flatten) (hs : VhdxMetaSigOK chunks.flatten) :
    virtualSize (feed s0 chunks).1 = (specVhdx chunks.flatten).vsize := by
  rw [← vhdx_chunk_independent_partial s0 h0 chunks hf hs]
  obtain rfl := Option.some.inj (lemma_init_vhdx.symm.trans h0)
  obtain ⟨q, _, hnext, _⟩ := lemma_feed_init chunks hf hs
  exact (lemma_vsize_finish q _ hnext).symm

/-- **vsize_zero_until_captured_vhdx_partial** — at every point of the feed of any stream, for as long
    as the size item (the one the two table walks lead to) has not been streamed completely,
    `virtual_size` is 0.  Extra hypotheses: those of `vhdx_chunk_independent_partial`, on the bytes
    streamed so far; missing: streams in the known-finding classes KF_D7 / KF_N4. -/
theorem vsize_zero_until_captured_vhdx_partial (s0 : Insp) (h0 : Insp.init .vhdx = some s0) (chunks : List Bytes)
    (hf : VhdxForward chunks.flatten) (hs : VhdxMetaSigOK chunks.flatten)
    (hnot : ∀ mo ioff ilen, 262144 ≤ chunks.flatten.length →
      findMetaRegionB (sliceOf chunks.flatten 196608 65536) = .ok (some mo) →
      findMetaEntryB (sliceOf chunks.flatten mo 65536) = .ok (some (ioff, ilen)) →
      (sliceOf chunks.flatten (mo + ioff) (min ilen 65536)).length ≠ min ilen 65536) :
    virtualSize (feed s0 chunks).1 = .ok 0 := by
  rw [vsize_feed_vhdx_partial s0 h0 chunks hf hs]
  generalize chunks.flatten = s at *
  unfold specVhdx
  simp only
  split
  · rfl
  · rename_i hl
    split
    · rfl
    · rfl
    · rename_i mo hr
      split
      · rfl
      · rfl
      · rename_i ioff ilen he
        rw [if_neg (hnot mo ioff ilen (Nat.le_of_not_lt hl) hr he)]
        rfl

/-- the hypotheses of the chunk-independence theorem pass to every prefix of a stream -/
theorem vhdx_hyps_prefix (s q : Bytes) (hq : q <+: s) (hf : VhdxForward s) (hs : VhdxMetaSigOK s) :
    VhdxForward q ∧ VhdxMetaSigOK q :=
  ⟨(lemma_forward_iff q).2 fun mo ho => lemma_fwd_prefix s q mo hq hf ho,
   (lemma_sigOK_iff q).2 fun mo ho => lemma_sig_prefix s q mo hq hs ho⟩

/-- **vsize_zero_until_captured_vhdx** — while a well-formed image is being streamed, `virtual_size`
    is 0 at every chunk boundary before the end of the size item, for every chunking -/
theorem vsize_zero_until_captured_vhdx (s0 : Insp) (h0 : Insp.init .vhdx = some s0) (s : Bytes)
    (rc j mo mc i ioff : Nat) (himg : VhdxImage s rc j mo mc i ioff) (chunks : List Bytes)
    (hq : chunks.flatten <+: s) (hshort : chunks.flatten.length < mo + ioff + 8) :
    virtualSize (feed s0 chunks).1 = .ok 0 := by
  obtain ⟨hf, hs⟩ := vhdx_hyps_of_image _ _ _ _ _ _ _ himg
  obtain ⟨hfq, hsq⟩ := vhdx_hyps_prefix s chunks.flatten hq hf hs
  apply vsize_zero_until_captured_vhdx_partial s0 h0 chunks hfq hsq
  generalize chunks.flatten = q at *
  intro mo' ioff' ilen' hl hr' he'
  have hls := List.IsPrefix.length_le hq
  have hh := lemma_header_frozen hq hl
  have hr := lemma_image_region _ _ _ _ _ _ _ himg
  rw [hh, hr'] at hr
  simp only [Except.ok.injEq, Option.some.injEq] at hr
  subst hr
  obtain ⟨he, _, _⟩ := lemma_image_entry _ _ _ _ _ _ _ himg
  obtain ⟨a, b⟩ := lemma_findMetaEntry_some _ _ he'
  rw [lemma_findMetaEntry_frozen (lemma_sliceOf_mono hq mo' 65536) a b, he'] at he
  simp only [Except.ok.injEq, Option.some.injEq, Prod.mk.injEq] at he
  obtain ⟨rfl, rfl⟩ := he
  rw [lemma_sliceOf_length]
  omega

/-! non-vacuity: the concrete image `vhdxSample` (Lemmas/VhdxSample.lean) is a `VhdxImage`; under every
    chunking its declared size 2^30 is reported, and 0 is reported at every chunk boundary of the
    first 262 215 bytes. -/
example (s0 : Insp) (h0 : Insp.init .vhdx = some s0) (chunks : List Bytes)
    (h : chunks.flatten = vhdxSample (encodeLE 8 (2 ^ 30))) :
    virtualSize (runChunks s0 chunks).1 = .ok ((2 ^ 30 : Nat) : Int) := by
  have hl : (encodeLE 8 (2 ^ 30)).length = 8 := lemma_encodeLE_length 8 _
  have himg := lemma_sample_image (encodeLE 8 (2 ^ 30)) hl
  rw [← h] at himg
  exact vsize_vhdx s0 h0 chunks 1 0 262144 1 0 64 (2 ^ 30) himg
    (by rw [h]; exact lemma_sample_size _ hl) (by decide)

example (s0 : Insp) (h0 : Insp.init .vhdx = some s0) (chunks : List Bytes)
    (hq : chunks.flatten <+: vhdxSample (encodeLE 8 (2 ^ 30))) (hshort : chunks.flatten.length < 262216) :
    virtualSize (feed s0 chunks).1 = .ok 0 :=
  vsize_zero_until_captured_vhdx s0 h0 _ 1 0 262144 1 0 64
    (lemma_sample_image (encodeLE 8 (2 ^ 30)) (lemma_encodeLE_length 8 _)) chunks hq (by omega)

end Oslo.Insp
