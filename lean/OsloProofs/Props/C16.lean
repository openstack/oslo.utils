/-
C16 — text coding helpers round-trip, keep their type contract, are idempotent.

Property theorems only; helper lemmas live in OsloProofs/Lemmas/C16Codec.lean and C16Slug.lean.

Everything is stated for an arbitrary codec table `C : Codecs`, locale `env : Env`, front end
`front : Text → Text`; what is assumed about those parameters is a named hypothesis
(`Faithful`, `PolicyFree`, `CaseInsensitive`, `NoTypeError`, `FrontOK`) visible in each statement, and each is
shown to be met by the concrete instances the driver runs (`real`, `asciiFront`).
Results are typed: `safeDecode`/`toSlug` return `Text`, `safeEncode`/`toUtf8` return `Bytes`
(the type contract of the non-raising outcomes is the typing of the model).
-/
import OsloModel.Encode
import OsloModel.Slug
import OsloProofs.Lemmas.C16Codec
import OsloProofs.Lemmas.C16Slug
namespace Oslo.C16
open Oslo.Encode Oslo.Slug

-- the concrete classes of the arguments (exact `str`/`bytes` or any proper subclass): every
-- theorem below holds for all of them, and takes those it mentions as its first explicit
-- arguments (`encode_decode_roundtrip k k' C …`)
variable (k k' : Cls)

deriving instance DecidableEq for Except

/-- a locale for the examples: no `sys.stdin.encoding`, default encoding utf-8 -/
def env0 : Env := ⟨none, "utf-8".toList⟩

/-- codec `n` represents text faithfully: what strict encoding produces decodes (under any error
    policy) to the text it came from -/
def Faithful (C : Codecs) (n : Name) : Prop :=
  ∀ t b p, C.encode n .strict t = .ok b → C.decode n p b = .ok t

/-- when strict encoding succeeds the error policy makes no difference -/
def PolicyFree (C : Codecs) (n : Name) : Prop :=
  ∀ t b q, C.encode n .strict t = .ok b → C.encode n q t = .ok b

/-- codec lookup ignores letter case (for decoding, where the code passes the name as given) -/
def CaseInsensitive (C : Codecs) : Prop :=
  ∀ n p b, C.decode (lowerName n) p b = C.decode n p b

/-- `safe_decode` returns a `str` unchanged, whatever the encoding, policy and locale -/
theorem decode_str_id (C : Codecs) (env : Env) (t : Text) (inc : Option Name) (p : Policy) :
    safeDecode C env (.str k t) inc p = .ok t := rfl

/-- an explicit non-empty `incoming` is the codec used; `None`/`''` fall back to
    `sys.stdin.encoding`, then to `sys.getdefaultencoding()` -/
theorem resolve_spec (env : Env) :
    (∀ c cs, resolve env (some (c :: cs)) = c :: cs) ∧
    (∀ inc, (inc = none ∨ inc = some []) →
      (∀ c cs, env.stdinEnc = some (c :: cs) → resolve env inc = c :: cs) ∧
      ((env.stdinEnc = none ∨ env.stdinEnc = some []) → resolve env inc = env.defaultEnc)) := by
  refine ⟨fun _ _ => rfl, fun inc hi => ⟨fun c cs hs => ?_, fun hs => ?_⟩⟩
  · rcases hi with rfl | rfl <;> simp [resolve, hs]
  · rcases hi with rfl | rfl <;> rcases hs with hs | hs <;> simp [resolve, hs]

/-- bytes are decoded with the given codec: whatever it yields is the result … -/
theorem decode_bytes_codec (C : Codecs) (env : Env) (b : Bytes) (inc : Option Name) (p : Policy)
    (t : Text) (h : C.decode (resolve env inc) p b = .ok t) :
    safeDecode C env (.bytes k b) inc p = .ok t := by
  simp [safeDecode, h]

/-- … when it reports a decoding error the bytes are decoded as UTF-8 instead (same policy) … -/
theorem decode_bytes_utf8_fallback (C : Codecs) (env : Env) (b : Bytes) (inc : Option Name)
    (p : Policy) (h : C.decode (resolve env inc) p b = .error .unicodeDecodeError) :
    safeDecode C env (.bytes k b) inc p = C.decode utf8Name p b := by
  simp [safeDecode, h]

/-- … and any other failure (unknown codec) is raised as it is -/
theorem decode_bytes_other_error (C : Codecs) (env : Env) (b : Bytes) (inc : Option Name)
    (p : Policy) (e : Err) (he : e ≠ .unicodeDecodeError)
    (h : C.decode (resolve env inc) p b = .error e) :
    safeDecode C env (.bytes k b) inc p = .error e := by
  cases e <;> simp_all [safeDecode]

/-- `safe_encode` of a `str` is the codec's encoding under the lower-cased name and given policy -/
theorem encode_str_codec (C : Codecs) (env : Env) (t : Text) (inc : Option Name) (e : Name)
    (p : Policy) : safeEncode C env (.str k t) inc e p = C.encode (lowerName e) p t := rfl

/-- **Round trip.**  `safe_encode(text, encoding=e)` followed by `safe_decode(…, incoming=e)` —
    under any decoding policy and locale, whatever `incoming` the encoding call was given —
    returns `text`, for every text the codec can represent (strict encoding succeeds). -/
theorem encode_decode_roundtrip (C : Codecs) (hci : CaseInsensitive C) (env env' : Env)
    (e : Name) (he : e ≠ []) (hf : Faithful C (lowerName e))
    (t : Text) (inc : Option Name) (b : Bytes) (p : Policy)
    (h : safeEncode C env (.str k t) inc e .strict = .ok b) :
    safeDecode C env' (.bytes k' b) (some e) p = .ok t := by
  cases e with
  | nil => exact absurd rfl he
  | cons c cs =>
    have hd : C.decode (c :: cs) p b = .ok t := by
      rw [← hci (c :: cs) p b]; exact hf t b p h
    simp [safeDecode, resolve, hd]

/-- the same with an error policy on the encoding side, as long as the codec can represent the text -/
theorem encode_decode_roundtrip_any_policy (C : Codecs) (hci : CaseInsensitive C) (env env' : Env)
    (e : Name) (he : e ≠ []) (hf : Faithful C (lowerName e)) (hp : PolicyFree C (lowerName e))
    (t : Text) (inc : Option Name) (b0 b : Bytes) (q p : Policy)
    (hrep : C.encode (lowerName e) .strict t = .ok b0)
    (h : safeEncode C env (.str k t) inc e q = .ok b) :
    safeDecode C env' (.bytes k' b) (some e) p = .ok t := by
  have hb : b = b0 := by
    have h1 : C.encode (lowerName e) q t = .ok b0 := hp t b0 q hrep
    have h2 : C.encode (lowerName e) q t = .ok b := h
    rw [h1] at h2; exact (Except.ok.inj h2).symm
  subst hb
  exact encode_decode_roundtrip k k' C hci env env' e he hf t inc b p hrep

/-- bytes are returned untouched when `encoding` and the (resolved) `incoming` agree up to letter
    case — valid for that codec or not — … -/
theorem encode_bytes_same_codec_id (C : Codecs) (env : Env) (b : Bytes) (inc : Option Name)
    (e : Name) (p : Policy) (h : lowerName e = lowerName (resolve env inc)) :
    safeEncode C env (.bytes k b) inc e p = .ok b := by
  simp [safeEncode, h]

/-- … and when they are empty -/
theorem encode_bytes_empty_id (C : Codecs) (env : Env) (inc : Option Name) (e : Name) (p : Policy) :
    safeEncode C env (.bytes k []) inc e p = .ok [] := by
  simp [safeEncode]

/-- otherwise they are transcoded: decoded by `safe_decode` with the incoming codec, encoded with
    `encoding` -/
theorem encode_bytes_transcode (C : Codecs) (hci : CaseInsensitive C) (env : Env) (b : Bytes)
    (hb : b ≠ []) (inc : Option Name) (e : Name) (p : Policy)
    (hne : lowerName e ≠ lowerName (resolve env inc)) :
    safeEncode C env (.bytes k b) inc e p =
      match safeDecode C env (.bytes k b) inc p with
      | .ok t => C.encode (lowerName e) p t
      | .error err => .error err := by
  have hres : resolve env (some (lowerName (resolve env inc))) = lowerName (resolve env inc) := by
    cases hr : resolve env inc with
    | cons c cs => simp [lowerName, resolve]
    | nil =>
      -- the resolved name is empty only if `incoming` was falsy, and then `''` resolves alike
      show resolve env (some []) = []
      rcases inc with _ | _ | ⟨c, cs⟩
      · exact hr
      · exact hr
      · cases hr
  have hdec : safeDecode C env (.bytes k b) (some (lowerName (resolve env inc))) p =
      safeDecode C env (.bytes k b) inc p := by
    simp only [safeDecode, hres, hci (resolve env inc) p b]
  simp only [safeEncode, hb, hne, ne_eq, not_false_eq_true, and_self, if_true]
  rw [hdec]
  cases safeDecode C env (.bytes k b) inc p <;> rfl

/-- an omitted parameter takes its default: `incoming=None`, `encoding='utf-8'`,
    `errors='strict'`; a passed one (positionally or by keyword) is itself -/
theorem call_defaults (C : Codecs) (env : Env) (front : Text → Text) (v : Val)
    (inc : Option Name) (e : Name) (p : Policy) :
    callSafeDecode C env v none none = safeDecode C env v none .strict ∧
    callSafeEncode C env v none none none = safeEncode C env v none "utf-8".toList .strict ∧
    callToSlug C env front v none none = toSlug C env front v none .strict ∧
    callSafeDecode C env v (some inc) (some p) = safeDecode C env v inc p ∧
    callSafeEncode C env v (some inc) (some e) (some p) = safeEncode C env v inc e p ∧
    callSafeEncode C env v (some inc) none (some p) = safeEncode C env v inc "utf-8".toList p ∧
    callToSlug C env front v (some inc) (some p) = toSlug C env front v inc p :=
  ⟨rfl, rfl, rfl, rfl, rfl, rfl, rfl⟩

/-- **Default encoding.**  With `encoding` left out, bytes whose incoming codec — given, or taken
    from the locale — is named `utf-8` in any letter case are returned untouched, valid UTF-8 or
    not, under every error policy. -/
theorem encode_bytes_default_encoding_id (C : Codecs) (env : Env) (b : Bytes)
    (inc : Option (Option Name)) (p : Option Policy)
    (h : lowerName (resolve env (argOr inc defaultIncoming)) = "utf-8".toList) :
    callSafeEncode C env (.bytes k b) inc none p = .ok b := by
  unfold callSafeEncode
  exact encode_bytes_same_codec_id k C env b _ _ _ (by rw [argOr, lemma_lower_default, h]; rfl)

/-- … and a `str` is encoded as UTF-8 (the codec the table files under the name `utf-8`) -/
theorem encode_str_default_encoding (C : Codecs) (env : Env) (t : Text)
    (inc : Option (Option Name)) (p : Policy) :
    callSafeEncode C env (.str k t) inc none (some p) = C.encode utf8Name p t := by
  simp [callSafeEncode, argOr, safeEncode, lemma_lower_default]

/-- non-vacuity: ill-formed UTF-8 handed over as `incoming='UTF-8'` (or with a UTF-8 stdin and no
    `incoming`) and no `encoding` comes back untouched under `replace`; under the alias `utf8` the
    names differ and the bytes are transcoded (here: replaced) -/
example :
    callSafeEncode real env0 (.bytes .exact [0xFF, 0xFE]) (some (some "UTF-8".toList)) none (some .replace)
      = .ok [0xFF, 0xFE] ∧
    callSafeEncode real ⟨some "Utf-8".toList, "ascii".toList⟩ (.bytes .exact [0xFF, 0xFE]) none none none
      = .ok [0xFF, 0xFE] ∧
    callSafeEncode real env0 (.bytes .exact [0xFF]) (some (some "utf8".toList)) none (some .replace)
      = .ok [0xEF, 0xBF, 0xBD] := by
  -- a literal unifies with `String.ofList _`; this spares the kernel decoding it
  repeat rw [String.toList_ofList]
  decide +kernel

theorem to_utf8_str (C : Codecs) (t : Text) : toUtf8 C (.str k t) = C.encode utf8Name .strict t := rfl

theorem to_utf8_bytes_id (C : Codecs) (b : Bytes) : toUtf8 C (.bytes k b) = .ok b := rfl

/-- what `to_utf8` makes of a `str` decodes back to it (UTF-8 faithful) -/
theorem to_utf8_roundtrip (C : Codecs) (hf : Faithful C utf8Name) (env : Env) (t : Text) (b : Bytes)
    (p : Policy) (h : toUtf8 C (.str k t) = .ok b) :
    safeDecode C env (.bytes k' b) (some utf8Name) p = .ok t := by
  have hr : resolve env (some utf8Name) = utf8Name := by
    rw [utf8Name, String.toList_ofList]
    rfl
  exact decode_bytes_codec k' C env b _ p t (by rw [hr]; exact hf t b p h)

theorem safe_decode_typeerror (C : Codecs) (env : Env) (inc : Option Name) (p : Policy) :
    safeDecode C env .other inc p = .error .typeError := rfl

theorem safe_encode_typeerror (C : Codecs) (env : Env) (inc : Option Name) (e : Name) (p : Policy) :
    safeEncode C env .other inc e p = .error .typeError := rfl

theorem to_utf8_typeerror (C : Codecs) : toUtf8 C .other = .error .typeError := rfl

theorem to_slug_typeerror (C : Codecs) (env : Env) (front : Text → Text) (inc : Option Name)
    (p : Policy) : toSlug C env front .other inc p = .error .typeError := rfl

/-- the codec machinery itself never raises TypeError (names and policies are strings) -/
def NoTypeError (C : Codecs) : Prop :=
  (∀ n p t, C.encode n p t ≠ .error .typeError) ∧ (∀ n p b, C.decode n p b ≠ .error .typeError)

/-- **TypeError exactly for the other types.**  Every instance of `str` or `bytes` — of the exact
    class or of any subclass — is accepted by all four helpers; TypeError means the argument is
    neither. -/
theorem typeerror_iff_other (C : Codecs) (hc : NoTypeError C) (env : Env) (front : Text → Text)
    (inc : Option Name) (e : Name) (p : Policy) (v : Val) :
    (safeDecode C env v inc p = .error .typeError ↔ v = .other) ∧
    (safeEncode C env v inc e p = .error .typeError ↔ v = .other) ∧
    (toUtf8 C v = .error .typeError ↔ v = .other) ∧
    (toSlug C env front v inc p = .error .typeError ↔ v = .other) := by
  obtain ⟨h1, h2⟩ := hc
  have hd : ∀ c b i, safeDecode C env (.bytes c b) i p ≠ .error .typeError := by
    intro c b i h
    simp only [safeDecode] at h
    split at h <;> exact h2 _ _ _ h
  cases v with
  | other => simp [safeDecode, safeEncode, toUtf8, toSlug]
  | str c t => simp [safeDecode, safeEncode, toUtf8, toSlug, h1]
  | bytes c b =>
    refine ⟨by simpa using hd c b inc, ?_, by simp [toUtf8], ?_⟩
    · simp only [reduceCtorEq, iff_false, safeEncode]
      intro h
      split at h
      · split at h
        · exact h1 _ _ _ h
        · next e he => cases h; exact hd _ _ _ he
      · cases h
    · simp only [reduceCtorEq, iff_false, toSlug]
      intro h
      split at h
      · cases h
      · next e he => cases h; exact hd _ _ _ he

/-- **Class independence.**  An instance of a subclass of `str` / `bytes` is treated exactly like
    the `str` / `bytes` with the same content by every helper. -/
theorem text_class_irrelevant (C : Codecs) (env : Env) (front : Text → Text) (inc : Option Name)
    (e : Name) (p : Policy) (t : Text) (b : Bytes) :
    safeDecode C env (.str k t) inc p = safeDecode C env (.str k' t) inc p ∧
    safeDecode C env (.bytes k b) inc p = safeDecode C env (.bytes k' b) inc p ∧
    safeEncode C env (.str k t) inc e p = safeEncode C env (.str k' t) inc e p ∧
    safeEncode C env (.bytes k b) inc e p = safeEncode C env (.bytes k' b) inc e p ∧
    toUtf8 C (.str k t) = toUtf8 C (.str k' t) ∧ toUtf8 C (.bytes k b) = toUtf8 C (.bytes k' b) ∧
    toSlug C env front (.str k t) inc p = toSlug C env front (.str k' t) inc p ∧
    toSlug C env front (.bytes k b) inc p = toSlug C env front (.bytes k' b) inc p :=
  ⟨rfl, rfl, rfl, rfl, rfl, rfl, rfl, rfl⟩

/-! ### the codecs the driver runs satisfy the laws (non-vacuity of the hypotheses above, and
    the reason the correspondence can run real bytes) -/

theorem real_faithful (n : Name) : Faithful real n := by
  intro t b p h
  cases hk : lookup n with
  | none => simp [real, hk] at h
  | some k =>
    rw [lemma_real_decode_known n k hk]
    cases k with
    | utf8 =>
      simp only [real, hk, Except.ok.injEq] at h
      subst h; exact lemma_utf8_roundtrip p t
    | latin1 =>
      simp only [real, hk] at h
      exact lemma_sb_roundtrip 256 (by omega) p t b h
    | ascii =>
      simp only [real, hk] at h
      exact lemma_sb_roundtrip 128 (by omega) p t b h

theorem real_policyFree (n : Name) : PolicyFree real n := by
  intro t b q h
  cases hk : lookup n with
  | none => simp [real, hk] at h
  | some k =>
    cases k with
    | utf8 => simpa [real, hk] using h
    | latin1 =>
      simp only [real, hk] at h ⊢
      exact lemma_sb_policy 256 q t b h
    | ascii =>
      simp only [real, hk] at h ⊢
      exact lemma_sb_policy 128 q t b h

theorem real_caseInsensitive : CaseInsensitive real := by
  intro n p b
  simp [real, lemma_lookup_lower]

theorem real_noTypeError : NoTypeError real := by
  refine ⟨fun n p t => ?_, fun n p b => ?_⟩
  · simp only [real]
    split <;> simp [lemma_sbEncode_noTypeError]
  · simp only [real]
    split
    · simp
    · split <;> simp [lemma_sbDecode_noTypeError, utf8Decode, lemma_collect_noTypeError]

/-- non-vacuity: a concrete round trip through UTF-8 (2-, 3- and 4-byte forms) in mixed case,
    a transcoding latin-1 → utf-8, the UTF-8 fall-back, an untouched invalid byte string -/
example :
    safeEncode real env0 (.str .sub ['é', '€', Char.ofNat 0x1F600]) none "UTF-8".toList .strict
      = .ok [0xC3, 0xA9, 0xE2, 0x82, 0xAC, 0xF0, 0x9F, 0x98, 0x80] ∧
    safeDecode real env0 (.bytes .exact [0xC3, 0xA9, 0xE2, 0x82, 0xAC, 0xF0, 0x9F, 0x98, 0x80])
      (some "Utf-8".toList) .strict = .ok ['é', '€', Char.ofNat 0x1F600] ∧
    safeEncode real env0 (.bytes .sub [0xE9]) (some "Latin-1".toList) "utf8".toList .strict = .ok [0xC3, 0xA9] ∧
    safeDecode real env0 (.bytes .exact [0xC3, 0xA9]) (some "ascii".toList) .strict = .ok ['é'] ∧
    safeEncode real env0 (.bytes .sub [0xFF]) (some "UTF-8".toList) "utf-8".toList .strict = .ok [0xFF] ∧
    safeEncode real env0 (.str .exact ['é']) none "ascii".toList .strict = .error .unicodeEncodeError := by
  repeat rw [String.toList_ofList]
  decide +kernel

/-- what is assumed about the NFKD + ASCII-ignore front end -/
structure FrontOK (front : Text → Text) : Prop where
  ascii_out : ∀ s, IsAscii (front s)
  id_on_ascii : ∀ s, IsAscii s → front s = s

/-- non-vacuity: dropping the non-ASCII characters is such a front end -/
theorem asciiFront_ok : FrontOK asciiFront where
  ascii_out s := by
    intro c hc
    simpa using (List.mem_filter.mp hc).2
  id_on_ascii s hs := by
    unfold asciiFront
    rw [List.filter_eq_self]
    intro c hc
    simpa using hs c hc

/-- **Alphabet.**  The slug of any text consists of lowercase ASCII letters, digits, underscores
    and hyphens only, and never has two hyphens in a row.  (A leading or trailing hyphen *is*
    possible — see `slug_edge_hyphens_occur`.) -/
theorem slug_alphabet (front : Text → Text) (hf : FrontOK front) (s : Text) :
    (∀ c ∈ slugText front s, SlugChar c) ∧ ¬ (['-', '-'] <:+: slugText front s) :=
  ⟨lemma_pipe_alphabet _ (hf.ascii_out s), lemma_normal_nodouble _ _ (lemma_pipe_normal _)⟩

/-- the truth about the ends: `strip()` removes white space only, so hyphens at the ends stay -/
theorem slug_edge_hyphens_occur :
    slugText asciiFront " -Foo  Bar- ".toList = "-foo-bar-".toList ∧
    slugText asciiFront "- -".toList = "-".toList := by
  repeat rw [String.toList_ofList]
  decide +kernel

/-- **Idempotence.**  Slugging a slug changes nothing. -/
theorem slug_idempotent (front : Text → Text) (hf : FrontOK front) (s : Text) :
    slugText front (slugText front s) = slugText front s := by
  have ha := lemma_pipe_alphabet _ (hf.ascii_out s)
  have hascii : IsAscii (slugText front s) := fun c hc => lemma_slugChar_ascii c (ha c hc)
  have e := hf.id_on_ascii _ hascii
  unfold slugText at e ⊢
  rw [e]
  exact lemma_pipe_fix _ ha (lemma_pipe_normal _)

/-- the same for the function as called: whatever `to_slug` returned (from `str` or from bytes
    in any encoding) is returned again by `to_slug`, with any `incoming`/`errors`/locale -/
theorem to_slug_idempotent (C : Codecs) (env env' : Env) (front : Text → Text) (hf : FrontOK front)
    (v : Val) (inc inc' : Option Name) (p p' : Policy) (o : Text)
    (h : toSlug C env front v inc p = .ok o) :
    toSlug C env' front (.str k o) inc' p' = .ok o := by
  obtain ⟨t, rfl⟩ := lemma_toSlug_ok h
  simp [toSlug, safeDecode, slug_idempotent front hf t]

/-- the alphabet claim for the function as called -/
theorem to_slug_alphabet (C : Codecs) (env : Env) (front : Text → Text) (hf : FrontOK front)
    (v : Val) (inc : Option Name) (p : Policy) (o : Text)
    (h : toSlug C env front v inc p = .ok o) :
    (∀ c ∈ o, SlugChar c) ∧ ¬ (['-', '-'] <:+: o) := by
  obtain ⟨t, rfl⟩ := lemma_toSlug_ok h
  exact slug_alphabet front hf t

/-- non-vacuity: slugs of bytes and text through the concrete table -/
example :
    toSlug real env0 asciiFront (.bytes .sub [0x41, 0x20, 0x20, 0x62, 0x21]) (some "ASCII".toList)
      .strict = .ok "a-b".toList ∧
    toSlug real env0 asciiFront (.str .sub "a-b".toList) none .strict = .ok "a-b".toList := by
  repeat rw [String.toList_ofList]
  decide +kernel

end Oslo.C16
