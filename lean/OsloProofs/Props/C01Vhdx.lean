/-
C01 for VHDX (theorem C01-6 of DESIGN.md): the verdict of the VHDX inspector is a function of the
streamed bytes, for every stream and every chunking, under the hypotheses `VhdxForward` and
`VhdxMetaSigOK` (the negations of the known-finding classes KF_D7 and KF_N4, where the statement
is false).  Both pass to every prefix of a stream: `vhdx_hyps_prefix` in Props/C07Vhdx.
-/
import OsloProofs.Lemmas.VhdxInv
import OsloProofs.Lemmas.VhdxSample
namespace Oslo.Insp

def vhdxVerdict (m complete : Bool) (vsize : Except Err Int) (raised : Option Err) : Verdict :=
  { fmtMatch := .ok m, complete := complete, vsize := vsize,
    safety := if complete && m then .ok else .refused, raised := raised }

/-- **whole-stream specification of the VHDX verdict** (transcription of `spec_vhdx` in
    notes/design-spec-vhdx-vmdk.py).  `findMetaRegionB` / `findMetaEntryB` are the two table walks
    as functions of the header bytes `s[192K : 256K]` and of the metadata bytes `s[mo : mo+64K]`.
    The branch `findMetaEntryB … = error` cannot occur under `VhdxMetaSigOK` (`lemma_entry_noerr`). -/
def specVhdx (s : Bytes) : Verdict :=
  let m := startsWith s (ascii "vhdxfile")
  if s.length < 262144 then vhdxVerdict m false (.ok 0) none else
  match findMetaRegionB (sliceOf s 196608 65536) with
  | .error e => vhdxVerdict m true (.ok 0) (some e)
  | .ok none => vhdxVerdict m true (.ok 0) none
  | .ok (some mo) =>
    match findMetaEntryB (sliceOf s mo 65536) with
    | .error e => vhdxVerdict m (decide ((sliceOf s mo 65536).length = 65536)) (.ok 0) (some e)
    | .ok none => vhdxVerdict m (decide ((sliceOf s mo 65536).length = 65536)) (.ok 0) none
    | .ok (some (ioff, ilen)) =>
      let vd := sliceOf s (mo + ioff) (min ilen 65536)
      if vd.length = min ilen 65536 then
        vhdxVerdict m true (match unpackLE 8 vd with | .ok n => .ok (n : Int) | .error e => .error e) none
      else vhdxVerdict m false (.ok 0) none

theorem lemma_startsWith_ident (q : Bytes) :
    startsWith (sliceOf q 0 32) (ascii "vhdxfile") = startsWith q (ascii "vhdxfile") := by
  simp only [startsWith, lemma_magic_length, sliceOf, List.drop_zero, List.take_take]
  rfl

/-- `finish()` only concerns end-capture regions -/
theorem lemma_finish_vst (t k : Nat) (regs : List (String × Region)) (hE : regs.all (fun p => !p.2.isEnd) = true) :
    (vst t regs k).finish = { vst t regs k with finished := true } := by
  have : regs.map (fun p => (p.1, p.2.finish)) = regs := by
    rw [List.map_congr_left (g := id) fun p hp => ?_, List.map_id]
    have hp' : p.2.isEnd = false := by simpa using List.all_eq_true.1 hE p hp
    simp only [Region.finish, hp', Bool.false_eq_true, if_false]
    rfl
  simp only [Insp.finish, vst, this]

theorem lemma_safety_null (s : Insp) (m : Bool) (hf : s.fmt = .vhdx) (hc : s.checks = ["null"])
    (hm : formatMatch s = .ok m) : safetyCheck s = if s.complete && m then .ok else .refused := by
  have hn : runCheck s "null" = .pass := by unfold runCheck; rw [hf]; rfl
  unfold safetyCheck
  rw [hm, hc, List.filter_cons, hn]
  cases s.complete <;> cases m <;> rfl

theorem lemma_verdict_vst (t k : Nat) (regs : List (String × Region)) (r : Option Err) (q : Bytes)
    (hE : regs.all (fun p => !p.2.isEnd) = true) (hi : lookupR "ident" regs = some (plainR 0 0 32 q)) :
    verdict ((vst t regs k).finish, r) =
      vhdxVerdict (startsWith q (ascii "vhdxfile")) (regs.all (·.2.complete)) (virtualSize (vst t regs k)) r := by
  rw [lemma_finish_vst t k regs hE, ← lemma_startsWith_ident]
  have hfm : formatMatch { vst t regs k with finished := true } =
      .ok (startsWith (sliceOf q 0 32) (ascii "vhdxfile")) := by
    simp only [formatMatch, vst, Insp.region, hi]; rfl
  simp only [verdict, vhdxVerdict, lemma_safety_null _ _ rfl rfl hfm, hfm]
  rfl

theorem lemma_ident_complete (q : Bytes) (h : 262144 ≤ q.length) : (plainR 0 0 32 q).complete = true :=
  lemma_plainR_complete_of_le 0 0 32 q (Nat.le_trans (by decide) h)

theorem lemma_verdict_A (q : Bytes) (r : Option Err) :
    verdict ((stA q).finish, r) =
      vhdxVerdict (startsWith q (ascii "vhdxfile")) (decide (262144 ≤ q.length)) (.ok 0) r := by
  unfold stA
  rw [lemma_verdict_vst _ _ _ r q rfl (by simp [lookupR])]
  congr 1
  simp only [List.all_cons, List.all_nil, Bool.and_true, lemma_header_complete]
  by_cases hl : 262144 ≤ q.length
  · rw [lemma_ident_complete q hl, Bool.true_and]
  · rw [decide_eq_false hl, Bool.and_false]

theorem lemma_verdict_M (q : Bytes) (mo : Nat) (r : Option Err) (hl : 262144 ≤ q.length) :
    verdict ((stM q mo).finish, r) =
      vhdxVerdict (startsWith q (ascii "vhdxfile")) (decide ((sliceOf q mo 65536).length = 65536)) (.ok 0) r := by
  unfold stM
  rw [lemma_verdict_vst _ _ _ r q rfl (by simp [lookupR])]
  congr 1
  simp only [List.all_cons, List.all_nil, Bool.and_true]
  rw [lemma_header_complete, lemma_ident_complete q hl, decide_eq_true hl, lemma_plainR_complete]
  rfl

theorem lemma_verdict_V (q : Bytes) (mo L vo vl : Nat) (r : Option Err) (hl : 262144 ≤ q.length)
    (hL : mo + L ≤ q.length) :
    verdict ((stV q mo L vo vl).finish, r) =
      if (sliceOf q vo vl).length = vl then
        vhdxVerdict (startsWith q (ascii "vhdxfile")) true
          (match unpackLE 8 (sliceOf q vo vl) with | .ok n => .ok (n : Int) | .error e => .error e) r
      else vhdxVerdict (startsWith q (ascii "vhdxfile")) false (.ok 0) r := by
  have hm := lemma_plainR_complete_of_le 2 mo L q hL
  have hv : lookupR "vds" [("ident", plainR 0 0 32 q), ("header", plainR 1 196608 65536 q),
      ("metadata", plainR 2 mo L q), ("vds", plainR 3 vo vl q)] = some (plainR 3 vo vl q) := by simp [lookupR]
  unfold stV
  rw [lemma_verdict_vst _ _ _ r q rfl (by simp [lookupR])]
  simp only [List.all_cons, List.all_nil, Bool.and_true, virtualSize, vst, hv]
  rw [lemma_header_complete, lemma_ident_complete q hl, decide_eq_true hl, hm, lemma_plainR_complete]
  by_cases h : (sliceOf q vo vl).length = vl
  · rw [if_pos h, decide_eq_true h]
    congr 1
    rw [show (plainR 3 vo vl q).data = sliceOf q vo vl from rfl]
    cases unpackLE 8 (sliceOf q vo vl) <;> rfl
  · rw [if_neg h, decide_eq_false h]
    rfl

theorem lemma_init_vhdx : Insp.init .vhdx = some (stA []) := by
  simp [Insp.init, Fmt.initChecks, Gen.vhdx_checks, Fmt.initRegions, Gen.vhdx_regions, mkRegions, stA, vst,
    plainR, sliceOf]

theorem lemma_verdict_state (q : Bytes) (st : Insp) (h : VInv q st) :
    verdict (st.finish, none) = specVhdx q := by
  cases h with
  | early hlt =>
    rw [lemma_verdict_A]
    unfold specVhdx
    simp only [if_pos hlt, decide_eq_false (Nat.not_le.2 hlt)]
  | nometa hl hr =>
    rw [lemma_verdict_A]
    unfold specVhdx
    simp only [if_neg (Nat.not_lt.2 hl), hr, decide_eq_true hl]
  | withMeta mo hl hr he =>
    rw [lemma_verdict_M q mo none hl]
    unfold specVhdx
    simp only [if_neg (Nat.not_lt.2 hl), hr, he]
  | withVds mo ioff ilen L hl hr he hL =>
    rw [lemma_verdict_V q mo L _ _ none hl hL]
    unfold specVhdx
    simp only [if_neg (Nat.not_lt.2 hl), hr, he]

/-- an inspector that stopped with an error at the prefix `q` has the specification's verdict of
    every extension of `q` -/
theorem lemma_verdict_err (s q : Bytes) (st : Insp) (e : Err) (hq : q <+: s) (h : VErr q st e) :
    verdict (st.finish, some e) = specVhdx s := by
  obtain ⟨hl, hr, rfl⟩ := h
  have hls := List.IsPrefix.length_le hq
  have hh := lemma_header_frozen hq hl
  rw [lemma_verdict_A]
  unfold specVhdx
  simp only [if_neg (Nat.not_lt.2 (Nat.le_trans hl hls)), hh, hr,
    lemma_startsWith_prefix hq (ascii "vhdxfile") (by rw [lemma_magic_length]; omega), decide_eq_true hl]

theorem lemma_feed_init (chunks : List Bytes) (hf : VhdxForward chunks.flatten) (hs : VhdxMetaSigOK chunks.flatten) :
    ∃ q, q <+: chunks.flatten ∧ VNext q (feed (stA []) chunks) ∧
      ((feed (stA []) chunks).2 = none → q = chunks.flatten) :=
  let ⟨q, h1, h2, h3, _⟩ :=
    lemma_vinv_feed chunks.flatten hf hs chunks [] (stA []) (VInv.early (by decide)) (List.prefix_refl _)
  ⟨q, h1, h2, h3⟩

/-- **vhdx_chunk_independent_partial** (C01-6) — for every stream and every chunking of it (empty
    chunks included), fed the way `InspectWrapper` feeds (an inspector that raised is not fed again)
    and then finished, the verdict of the VHDX inspector — `format_match`, `complete`,
    `virtual_size`, the `safety_check` outcome and the error raised while feeding — is the function
    `specVhdx` of the concatenated bytes.  Hypotheses (both decidable predicates on the stream):
    `VhdxForward` — the metadata-region pointer is ≥ 256 KiB and the size item that is found lies at or
    after the end of the metadata entry table; `VhdxMetaSigOK` — the metadata region, if 32 bytes of
    it are in the stream, starts with `metadata`.  Missing: streams outside the hypotheses
    (known findings KF_D7 and KF_N4), where the verdict does depend on the chunking. -/
theorem vhdx_chunk_independent_partial (s0 : Insp) (h0 : Insp.init .vhdx = some s0) (chunks : List Bytes)
    (hf : VhdxForward chunks.flatten) (hs : VhdxMetaSigOK chunks.flatten) :
    verdict (runChunks s0 chunks) = specVhdx chunks.flatten := by
  obtain rfl := Option.some.inj (lemma_init_vhdx.symm.trans h0)
  obtain ⟨q, hq, hnext, hend⟩ := lemma_feed_init chunks hf hs
  unfold runChunks
  cases hfeed : feed (stA []) chunks with
  | mk st e =>
    rw [hfeed] at hnext hend
    cases e with
    | some err => exact lemma_verdict_err _ q st err hq hnext
    | none => exact hend rfl ▸ lemma_verdict_state q st hnext

/-- … hence two chunkings of the same bytes give the same verdict, component by component -/
theorem vhdx_verdict_eq_partial (s0 : Insp) (h0 : Insp.init .vhdx = some s0) (c1 c2 : List Bytes)
    (h : c1.flatten = c2.flatten) (hf : VhdxForward c1.flatten) (hs : VhdxMetaSigOK c1.flatten) :
    let v1 := verdict (runChunks s0 c1)
    let v2 := verdict (runChunks s0 c2)
    v1.fmtMatch = v2.fmtMatch ∧ v1.complete = v2.complete ∧ v1.vsize = v2.vsize ∧
    v1.safety = v2.safety ∧ v1.raised = v2.raised := by
  have e1 := vhdx_chunk_independent_partial s0 h0 c1 hf hs
  have e2 := vhdx_chunk_independent_partial s0 h0 c2 (h ▸ hf) (h ▸ hs)
  simp only [e1, e2, h, and_self]

/-- the same at every point of the feed (before `finish()`), as long as the inspector has not raised:
    what `format_match`, `complete`, `virtual_size` and `safety_check` answer after any chunk list is
    the specification's verdict of the bytes streamed so far -/
theorem vhdx_verdict_at_every_point_partial (s0 : Insp) (h0 : Insp.init .vhdx = some s0) (chunks : List Bytes)
    (hf : VhdxForward chunks.flatten) (hs : VhdxMetaSigOK chunks.flatten)
    (hok : (feed s0 chunks).2 = none) :
    verdict ((feed s0 chunks).1.finish, none) = specVhdx chunks.flatten := by
  have h := vhdx_chunk_independent_partial s0 h0 chunks hf hs
  unfold runChunks at h
  rw [← hok]
  exact h

/-- whether the inspector raises while being fed, and with what, does not depend on the chunking -/
theorem vhdx_raised_chunk_independent_partial (s0 : Insp) (h0 : Insp.init .vhdx = some s0) (c1 c2 : List Bytes)
    (h : c1.flatten = c2.flatten) (hf : VhdxForward c1.flatten) (hs : VhdxMetaSigOK c1.flatten) :
    (feed s0 c1).2 = (feed s0 c2).2 := by
  have e1 := congrArg Verdict.raised (vhdx_chunk_independent_partial s0 h0 c1 hf hs)
  have e2 := congrArg Verdict.raised (vhdx_chunk_independent_partial s0 h0 c2 (h ▸ hf) (h ▸ hs))
  exact e1.trans ((h ▸ e2).symm)

/-- streams that end before the header region is complete satisfy both hypotheses -/
theorem vhdx_hyps_of_short (s : Bytes) (h : s.length < 262144) : VhdxForward s ∧ VhdxMetaSigOK s :=
  have hn : ∀ mo, vhdxMetaOff s ≠ some mo := fun mo ho => absurd h (Nat.not_lt.2 ((lemma_metaOff_iff s mo).1 ho).1)
  ⟨(lemma_forward_iff s).2 fun mo ho => absurd ho (hn mo), (lemma_sigOK_iff s).2 fun mo ho => absurd ho (hn mo)⟩

/-- streams whose region table is refused or names no metadata region satisfy both hypotheses -/
theorem vhdx_hyps_of_no_metadata (s : Bytes)
    (h : ∀ mo, findMetaRegionB (sliceOf s 196608 65536) ≠ .ok (some mo)) : VhdxForward s ∧ VhdxMetaSigOK s :=
  have hn : ∀ mo, vhdxMetaOff s ≠ some mo := fun mo ho => h mo ((lemma_metaOff_iff s mo).1 ho).2
  ⟨(lemma_forward_iff s).2 fun mo ho => absurd ho (hn mo), (lemma_sigOK_iff s).2 fun mo ho => absurd ho (hn mo)⟩

/-- every well-formed image (`VhdxImage`: byte-level description) satisfies both hypotheses -/
theorem vhdx_hyps_of_image (s : Bytes) (rc j mo mc i ioff : Nat) (h : VhdxImage s rc j mo mc i ioff) :
    VhdxForward s ∧ VhdxMetaSigOK s := by
  obtain ⟨he, hes, hsig⟩ := lemma_image_entry s rc j mo mc i ioff h
  have hoff : vhdxMetaOff s = some mo :=
    (lemma_metaOff_iff s mo).2 ⟨by have := h.hlen; have := h.mo_ge; omega, lemma_image_region s rc j mo mc i ioff h⟩
  refine ⟨(lemma_forward_iff s).2 fun mo' h' => ?_, (lemma_sigOK_iff s).2 fun mo' h' _ => ?_⟩
  · obtain rfl := Option.some.inj (hoff.symm.trans h')
    refine ⟨h.mo_ge, fun ioff' ilen' he' => ?_⟩
    obtain rfl := (Prod.mk.inj (Option.some.inj (Except.ok.inj (he.symm.trans he')))).1
    exact hes ▸ h.ioff_ge
  · obtain rfl := Option.some.inj (hoff.symm.trans h')
    exact hsig

/-! non-vacuity: a short stream; and the concrete 262 216-byte image `vhdxSample` (signature, one-entry
    region table, one-entry metadata table, size item), for which the specification — hence the
    inspector under every chunking — answers: match, complete, the declared size, safety check passed. -/
example : VhdxForward (ascii "vhdxfile") ∧ VhdxMetaSigOK (ascii "vhdxfile") :=
  vhdx_hyps_of_short _ (by rw [lemma_magic_length]; decide)

example (sz : Bytes) (hs : sz.length = 8) : VhdxForward (vhdxSample sz) ∧ VhdxMetaSigOK (vhdxSample sz) :=
  vhdx_hyps_of_image _ _ _ _ _ _ _ (lemma_sample_image sz hs)

theorem lemma_spec_image (s : Bytes) (rc j mo mc i ioff : Nat) (h : VhdxImage s rc j mo mc i ioff) :
    specVhdx s = vhdxVerdict (startsWith s (ascii "vhdxfile")) true
      (.ok (leNat (slice s (mo + ioff) (mo + ioff + 8)) : Nat)) none := by
  have hl : ¬ s.length < 262144 := by have := h.hlen; have := h.mo_ge; omega
  have hvd : (sliceOf s (mo + ioff) 8).length = 8 := by have := h.hlen; rw [lemma_sliceOf_length]; omega
  unfold specVhdx
  simp only [if_neg hl, lemma_image_region s rc j mo mc i ioff h, (lemma_image_entry s rc j mo mc i ioff h).1,
    show min 8 65536 = 8 from rfl, hvd, if_true, unpackLE]
  rw [lemma_sliceOf_as_slice]

theorem vhdx_sample_spec (sz : Bytes) (hs : sz.length = 8) :
    specVhdx (vhdxSample sz) = vhdxVerdict true true (.ok (leNat sz : Nat)) none := by
  rw [lemma_spec_image _ _ _ _ _ _ _ (lemma_sample_image sz hs), lemma_sample_magic, lemma_sample_size sz hs]

example (s0 : Insp) (h0 : Insp.init .vhdx = some s0) (chunks : List Bytes)
    (h : chunks.flatten = vhdxSample [0, 0, 0, 64, 0, 0, 0, 0]) :
    verdict (runChunks s0 chunks) = vhdxVerdict true true (.ok 1073741824) none := by
  have hyp := vhdx_hyps_of_image _ _ _ _ _ _ _ (lemma_sample_image [0, 0, 0, 64, 0, 0, 0, 0] rfl)
  rw [vhdx_chunk_independent_partial s0 h0 chunks (h ▸ hyp.1) (h ▸ hyp.2), h, vhdx_sample_spec _ rfl]
  rfl

end Oslo.Insp
