/-
C19 — path and list splitting honour their contracts for every input.

Property theorems only; helper lemmas are in OsloProofs/Lemmas/C19Split.lean (the model of
`str.split`/`join`; `splitPath` and `specSegs` on the pieces of the split) and
OsloProofs/Lemmas/C19Commas.lean (the hand parser), or `lemma_`-prefixed here.
-/
import OsloModel.Split
import OsloProofs.Lemmas.C19Split
import OsloProofs.Lemmas.C19Commas
namespace Oslo.Split

/-! ## split_path -/

/-- `minsegs > maxsegs` (line 564) -/
theorem split_path_rejects_min_gt_max (path : List Char) (minsegs : Nat) (maxsegs : Option Nat) (rwl : Bool)
    (h : effMax minsegs maxsegs < minsegs) :
    splitPath path minsegs maxsegs rwl = .error .valueError := by
  rw [splitPath, if_pos h]

/-- a path that does not start with `/` (the empty path included) is rejected -/
theorem split_path_rejects_no_leading_slash (path : List Char) (minsegs : Nat) (maxsegs : Option Nat)
    (rwl : Bool) (h1 : 1 ≤ minsegs) (h : path.head? ≠ some '/') :
    splitPath path minsegs maxsegs rwl = .error .valueError := by
  by_cases hm : minsegs ≤ effMax minsegs maxsegs
  · match path, h with
    | [], _ =>
      rw [splitPath_of_pieces hm (pySplit_nil _ _)]
      exact if_pos (Or.inr (Or.inl h1))
    | c :: rest, h =>
      obtain ⟨hd, tl, hp⟩ := pySplit_head_cons '/' _ c rest (by simpa using h)
      rw [splitPath_of_pieces hm hp, if_pos (Or.inl (List.cons_ne_nil _ _))]
  · exact split_path_rejects_min_gt_max _ _ _ _ (Nat.lt_of_not_le hm)

/-- **split_path = its contract.**  For every path, `minsegs ≥ 1`, `maxsegs` (None / 0 / any) and
    flag, the line-by-line model of `split_path` returns exactly what the declarative reading says:
    `maxsegs` falsy ↦ `minsegs`; `minsegs > maxsegs` or no leading `/` ↦ ValueError; split the rest on
    `/`; with `rest_with_last` fold everything from segment `maxsegs` on into the last one, otherwise
    drop one empty trailing segment at position `maxsegs+1` and reject anything longer; fewer than
    `minsegs` segments or an empty one among the first `minsegs` ↦ ValueError; pad with None. -/
theorem split_path_eq_spec (path : List Char) (minsegs : Nat) (maxsegs : Option Nat) (rwl : Bool)
    (h1 : 1 ≤ minsegs) :
    splitPath path minsegs maxsegs rwl = splitPathSpec path minsegs maxsegs rwl := by
  unfold splitPathSpec
  simp only
  rcases Nat.lt_or_ge (effMax minsegs maxsegs) minsegs with hm | hm
  · rw [split_path_rejects_min_gt_max _ _ _ _ hm, if_pos hm]
  rw [if_neg (Nat.not_lt.mpr hm)]
  match path with
  | [] => exact split_path_rejects_no_leading_slash _ _ _ _ h1 (by simp)
  | c :: rest =>
    simp only
    by_cases hc : c = '/'
    · -- both sides in terms of the pieces `Q` of the split of `rest`
      subst hc
      have hm1 := Nat.le_trans h1 hm
      rw [if_pos rfl, splitPath_of_pieces hm (pySplit_slash rest _ rwl hm1),
        specSegs_splitAll rest _ rwl hm1, finish_cons]
      generalize pySplit '/' (if rwl then effMax minsegs maxsegs - 1 else effMax minsegs maxsegs) rest = Q
      generalize effMax minsegs maxsegs = m at *
      by_cases hD : m < Q.length ∧ Q[m]? ≠ some []
      · rw [if_pos (.inr (.inr (.inr hD))), if_pos hD]
      · rw [if_neg hD]
        simp only
        rw [List.take_take, Nat.min_eq_left hm]
        have e : (Q.take m).length < minsegs ↔ Q.length < minsegs := by
          rw [List.length_take, ← Nat.not_le, ← Nat.not_le, Nat.le_min]
          exact not_congr (and_iff_right hm)
        simp only [e, ne_eq, not_true_eq_false, false_or, hD, or_false]
    · rw [if_neg hc]; exact split_path_rejects_no_leading_slash _ _ _ _ h1 (by simpa using hc)

example : splitPath "/a/c/o/r".toList 1 (some 3) true
    = .ok [some ['a'], some ['c'], some "o/r".toList] ∧
    splitPathSpec "/a/c/o/r".toList 1 (some 3) true = .ok [some ['a'], some ['c'], some "o/r".toList] ∧
    splitPath "/a".toList 1 (some 2) false = .ok [some ['a'], none] := by
  -- a literal unifies with `String.ofList _`; this spares the kernel decoding it
  repeat rw [String.toList_ofList]
  exact ⟨rfl, rfl, rfl⟩

/-- the result always has exactly `maxsegs` entries (`minsegs` when `maxsegs` is None/0); this one
    needs no assumption on `minsegs` -/
theorem split_path_length (path : List Char) (minsegs : Nat) (maxsegs : Option Nat) (rwl : Bool)
    (r : List Seg) (h : splitPath path minsegs maxsegs rwl = .ok r) :
    r.length = effMax minsegs maxsegs := by
  rcases splitPath_error_or_finish path minsegs maxsegs rwl with h' | ⟨segs, h'⟩ <;>
    rw [h'] at h <;> cases h
  exact finish_length _ _

/-- the model's `IndexError` outcomes (`segs[0]`, `segs[maxsegs]`) are unreachable: every failure
    of `split_path` is a ValueError (no assumption on `minsegs`) -/
theorem split_path_no_indexError (path : List Char) (minsegs : Nat) (maxsegs : Option Nat) (rwl : Bool)
    (e : Err) (h : splitPath path minsegs maxsegs rwl = .error e) : e = .valueError := by
  rcases splitPath_error_or_finish path minsegs maxsegs rwl with h' | ⟨segs, h'⟩ <;>
    rw [h'] at h <;> cases h
  rfl

/-- **Leading segments preserved.**  Whenever `split_path` returns, the result is the list of its
    segments followed only by `None`s, there are between `minsegs` and `maxsegs` segments, the first
    `minsegs` are non-empty, re-joining them with `/` behind a leading `/` gives back the path (up to
    the one tolerated trailing slash, possible only without `rest_with_last` and when all `maxsegs`
    entries are filled), and no segment contains a `/` except the last one under `rest_with_last`. -/
theorem split_path_ok_shape (path : List Char) (minsegs : Nat) (maxsegs : Option Nat) (rwl : Bool)
    (r : List Seg) (h1 : 1 ≤ minsegs) (h : splitPath path minsegs maxsegs rwl = .ok r) :
    ∃ segs : List (List Char),
      r = segs.map some ++ List.replicate (effMax minsegs maxsegs - segs.length) none ∧
      minsegs ≤ segs.length ∧ segs.length ≤ effMax minsegs maxsegs ∧
      (∀ s ∈ segs.take minsegs, s ≠ []) ∧
      (path = '/' :: joinSep '/' segs ∨
        (rwl = false ∧ segs.length = effMax minsegs maxsegs ∧ path = '/' :: (joinSep '/' segs ++ ['/']))) ∧
      (∀ s ∈ segs.take (if rwl then effMax minsegs maxsegs - 1 else effMax minsegs maxsegs), '/' ∉ s) := by
  rw [split_path_eq_spec _ _ _ _ h1] at h
  obtain ⟨hm, rest, segs, hp, hs, hmin, hne, hr⟩ := splitPathSpec_ok _ _ _ _ _ h
  obtain ⟨hlen, hjoin, hsep⟩ := specSegs_splitAll_some rest _ rwl segs (Nat.le_trans h1 hm) hs
  refine ⟨segs, hr, hmin, hlen, fun s hs' hnil => hne (hnil ▸ hs'), ?_, hsep⟩
  rcases hjoin with hj | ⟨hf, hl, hj⟩
  · left; rw [hp, hj]
  · right; exact ⟨hf, hl, by rw [hp, hj]⟩

/-- after the leading slash the path is rejected as soon as the specification's segments, if there
    are any, are fewer than `minsegs` or have an empty one among the first `minsegs` -/
theorem lemma_rejects_of_segs (rest : List Char) (minsegs : Nat) (maxsegs : Option Nat) (rwl : Bool)
    (h1 : 1 ≤ minsegs)
    (H : minsegs ≤ effMax minsegs maxsegs → ∀ segs,
      specSegs (splitAll '/' rest) (effMax minsegs maxsegs) rwl = some segs →
        segs.length < minsegs ∨ [] ∈ segs.take minsegs) :
    splitPath ('/' :: rest) minsegs maxsegs rwl = .error .valueError := by
  rw [split_path_eq_spec _ _ _ _ h1]
  unfold splitPathSpec
  simp only [if_true]
  split
  · rfl
  · split
    · rfl
    · rename_i hm _ segs hs
      exact if_pos (H (Nat.le_of_not_lt hm) segs hs)

/-- fewer than `minsegs` segments after the leading slash -/
theorem split_path_rejects_too_few (rest : List Char) (minsegs : Nat) (maxsegs : Option Nat) (rwl : Bool)
    (h1 : 1 ≤ minsegs) (h : (splitAll '/' rest).length < minsegs) :
    splitPath ('/' :: rest) minsegs maxsegs rwl = .error .valueError :=
  lemma_rejects_of_segs rest minsegs maxsegs rwl h1
    (fun _ _ hs => Or.inl (Nat.lt_of_le_of_lt (specSegs_some hs).1 h))

/-- an empty segment among the first `minsegs` (e.g. `//a`, `/a//b` with `minsegs = 2`); with
    `rest_with_last` the segment at position `maxsegs` absorbs the remainder, so there the claim is for
    positions before `maxsegs` or paths with no remainder -/
theorem split_path_rejects_empty_segment (rest : List Char) (minsegs : Nat) (maxsegs : Option Nat) (rwl : Bool)
    (i : Nat) (h1 : 1 ≤ minsegs) (hi : i < minsegs) (he : (splitAll '/' rest)[i]? = some [])
    (hr : rwl = true → i + 1 < effMax minsegs maxsegs ∨ (splitAll '/' rest).length ≤ effMax minsegs maxsegs) :
    splitPath ('/' :: rest) minsegs maxsegs rwl = .error .valueError := by
  refine lemma_rejects_of_segs rest minsegs maxsegs rwl h1 (fun hm segs hs => Or.inr ?_)
  -- position `i` of the segments is position `i` of the pieces
  have key : segs[i]? = some [] := by
    by_cases hl : (splitAll '/' rest).length ≤ effMax minsegs maxsegs
    · rw [specSegs_of_length_le rwl hl] at hs; cases hs; exact he
    · have hik : i < if rwl then effMax minsegs maxsegs - 1 else effMax minsegs maxsegs := by
        cases rwl
        · exact Nat.lt_of_lt_of_le hi hm
        · have := (hr rfl).resolve_right hl; simp only [if_true]; omega
      have := congrArg (·[i]?) (specSegs_some hs).2
      simp only [List.getElem?_take, if_pos hik] at this
      rw [this, he]
  exact List.mem_of_getElem? (by rw [List.getElem?_take, if_pos hi, key])

/-- without `rest_with_last`: more than `maxsegs` segments, other than one empty trailing one -/
theorem split_path_rejects_too_many (rest : List Char) (minsegs : Nat) (maxsegs : Option Nat)
    (h1 : 1 ≤ minsegs)
    (h : effMax minsegs maxsegs + 1 < (splitAll '/' rest).length ∨
         ((splitAll '/' rest).length = effMax minsegs maxsegs + 1 ∧ (splitAll '/' rest).getLast? ≠ some [])) :
    splitPath ('/' :: rest) minsegs maxsegs false = .error .valueError := by
  refine lemma_rejects_of_segs rest minsegs maxsegs false h1 (fun _ segs hs => ?_)
  unfold specSegs at hs
  rw [if_neg Bool.false_ne_true, if_neg (by omega), if_neg (fun hc => h.elim (by omega) (·.2 hc.2))] at hs
  cases hs

/-- the tolerated trailing slash: `/a/b/` is split like `/a/b` when that fills all `maxsegs` entries -/
theorem split_path_trailing_slash (rest : List Char) (minsegs : Nat) (maxsegs : Option Nat) (h1 : 1 ≤ minsegs)
    (hlen : (splitAll '/' rest).length = effMax minsegs maxsegs) :
    splitPath ('/' :: (rest ++ ['/'])) minsegs maxsegs false = splitPath ('/' :: rest) minsegs maxsegs false := by
  rw [split_path_eq_spec _ _ _ _ h1, split_path_eq_spec _ _ _ _ h1]
  unfold splitPathSpec
  have e1 : specSegs (splitAll '/' (rest ++ ['/'])) (effMax minsegs maxsegs) false = some (splitAll '/' rest) := by
    unfold specSegs; rw [splitAll_append_sep]; simp [hlen]
  simp only [↓reduceIte, e1, specSegs_of_length_le false (Nat.le_of_eq hlen)]

example : (splitAll '/' "a/b/c".toList).length = 3 ∧ effMax 1 (some 1) + 1 < 3 ∧
    (splitAll '/' "a/b".toList).length = effMax 2 none ∧
    splitPath "/a/b/".toList 2 none false = .ok [some ['a'], some ['b']] := by
  repeat rw [String.toList_ofList]
  exact ⟨rfl, by decide, rfl, rfl⟩

example : splitPath "/a//c".toList 2 (some 3) false = .error .valueError ∧
    (splitAll '/' "a//c".toList)[1]? = some [] := by
  repeat rw [String.toList_ofList]
  exact ⟨rfl, rfl⟩

/-! ## split_by_commas -/

/-- **Round trip, any admissible quoting.**  For every non-empty list of items without TAB, LF, CR
    (a superset of printable ASCII; also non-ASCII text) and any way of writing each item that is either
    the double-quoted form with `\"` / `\\` escapes or — for a non-empty run of word characters — the
    item itself: splitting the comma-joined string returns exactly the items. -/
theorem split_commas_roundtrip_any_quoting (items : List (List Char)) (enc : List Char → List Char)
    (hne : items ≠ []) (hok : ∀ i ∈ items, okItem i = true) (henc : ∀ i ∈ items, IsEnc i (enc i)) :
    splitByCommas (joinSep ',' (items.map enc)) = .ok items := by
  unfold splitByCommas parseAll
  rw [expandTabs_notab _ _ (joinSep_notab _ (by
    intro e he
    obtain ⟨i, hi, rfl⟩ := List.mem_map.mp he
    exact isEnc_notab i _ (henc i hi) (hok i hi)))]
  exact parseItems_join items enc henc hok hne _ (Nat.lt_succ_self _)

/-- **Round trip** (the property's encoder): items that are empty or contain anything but word
    characters — comma, quote, space, … — or a backslash are double-quoted with backslash escapes, the
    others are written as they are; `split_by_commas(",".join(...))` gives back the items. -/
theorem split_commas_roundtrip (items : List (List Char))
    (hne : items ≠ []) (hok : ∀ i ∈ items, okItem i = true) :
    splitByCommas (joinSep ',' (items.map quoteIfNeeded)) = .ok items :=
  split_commas_roundtrip_any_quoting items quoteIfNeeded hne hok (fun i _ => isEnc_quoteIfNeeded i)

/-- the same for the domain named in the property: item lists over printable ASCII -/
theorem split_commas_roundtrip_printable (items : List (List Char))
    (hne : items ≠ []) (hp : ∀ i ∈ items, ∀ c ∈ i, printable c = true) :
    splitByCommas (joinSep ',' (items.map quoteIfNeeded)) = .ok items :=
  split_commas_roundtrip items hne (fun i hi =>
    List.all_eq_true.mpr fun c hc => printable_okChar c (hp i hi c hc))

/-- … and with every item quoted -/
theorem split_commas_roundtrip_all_quoted (items : List (List Char))
    (hne : items ≠ []) (hok : ∀ i ∈ items, okItem i = true) :
    splitByCommas (joinSep ',' (items.map quote)) = .ok items :=
  split_commas_roundtrip_any_quoting items quote hne hok (fun _ _ => Or.inl rfl)

example :
    let items : List (List Char) := [['a', ',', 'b'], [], ['c', '"', '\\'], ['d'], [' ']]
    items ≠ [] ∧ (∀ i ∈ items, ∀ c ∈ i, printable c = true) ∧
    joinSep ',' (items.map quoteIfNeeded) =
      ['"', 'a', ',', 'b', '"', ',', '"', '"', ',', '"', 'c', '\\', '"', '\\', '\\', '"', ',', 'd', ',', '"', ' ', '"'] := by
  decide +kernel

/-- **Unbalanced quotes.**  At an item position (start of the string or after `item,item,…,`), an
    opening quote that is never closed — reading on, every later `"` is escaped by a backslash — is
    rejected, whatever else the text contains. -/
theorem split_commas_rejects_unbalanced (pre : List (List Char)) (body : List Char)
    (hok : ∀ i ∈ pre, okItem i = true) (hb : noClosingQuote body = true) :
    splitByCommas (prefixStr pre ++ '"' :: body) = .error .valueError := by
  apply splitByCommas_prefix_error pre _ hok
  intro col f
  obtain ⟨col', hc⟩ := expandTabs_cons_nontab col '"' body (by decide)
  rw [hc]
  exact parseItems_unclosed _ ((noClosingQuote_expandTabs col' body).trans hb) f

/-- in particular an opening quote followed by any escaped text and no closing quote -/
theorem split_commas_rejects_unclosed (pre : List (List Char)) (content : List Char)
    (hok : ∀ i ∈ pre, okItem i = true) :
    splitByCommas (prefixStr pre ++ '"' :: escape content) = .error .valueError :=
  split_commas_rejects_unbalanced pre _ hok (noClosingQuote_escape content)

example : noClosingQuote ['a', '\\', '"', 'b', ',', '\t'] = true := by decide +kernel

/-- **Text after an item.**  After a complete item (either encoding) and optional whitespace, any
    character other than a comma is rejected: `"a"b`, `"a" "b"`, `a b`, `a"b"` (for a bare item directly
    followed by `c`, `c` must be a character that ends the word, e.g. a quote). -/
theorem split_commas_rejects_text_after_item (pre : List (List Char)) (item e ws : List Char) (c : Char)
    (rest : List Char) (hok : ∀ i ∈ pre, okItem i = true) (hi : okItem item = true) (he : IsEnc item e)
    (hws : ∀ w ∈ ws, isWs w = true) (hc1 : isWs c = false) (hc2 : c ≠ ',')
    (hstop : e = item → ws = [] → isWordChar c = false) :
    splitByCommas (prefixStr pre ++ (e ++ (ws ++ c :: rest))) = .error .valueError := by
  apply splitByCommas_prefix_error pre _ hok
  intro col f
  rw [expandTabs_append, expandTabs_notab _ _ (isEnc_notab item e he hi), expandTabs_append]
  obtain ⟨col', hc⟩ := expandTabs_cons_nontab (colAfter (colAfter col e) ws) c rest
    (ne_of_pred (p := fun c => !isWs c) (by rw [hc1]; rfl) (by decide))
  rw [hc]
  exact parseItems_text_after_item item e _ c _ hi he (expandTabs_ws _ ws hws) hc1 hc2
    (fun h1 h2 => hstop h1 (expandTabs_eq_nil _ _ h2)) f

/-- **Text after a closing quote** (the quoted case of the previous theorem, no side condition) -/
theorem split_commas_rejects_text_after_quote (pre : List (List Char)) (item ws : List Char) (c : Char)
    (rest : List Char) (hok : ∀ i ∈ pre, okItem i = true) (hi : okItem item = true)
    (hws : ∀ w ∈ ws, isWs w = true) (hc1 : isWs c = false) (hc2 : c ≠ ',') :
    splitByCommas (prefixStr pre ++ (quote item ++ (ws ++ c :: rest))) = .error .valueError := by
  refine split_commas_rejects_text_after_item pre item (quote item) ws c rest hok hi (Or.inl rfl) hws hc1 hc2
    (fun h => ?_)
  -- the quoted form is longer than the item
  have hq := congrArg List.length h
  have hl := escape_length item
  simp only [quote, List.length_cons, List.length_append, List.length_nil] at hq
  omega

example : isWs 'b' = false ∧ 'b' ≠ ',' ∧ (∀ w ∈ [' ', '\t'], isWs w = true) ∧ okItem ['a', ' '] = true := by
  decide +kernel

/-- **Empty unquoted item.**  At an item position, optional whitespace followed by the end of the
    string or by a comma is rejected: the empty string, `,a`, `a,,b`, `a,`, `a, ,b`. -/
theorem split_commas_rejects_empty_item (pre : List (List Char)) (ws tail : List Char)
    (hok : ∀ i ∈ pre, okItem i = true) (hws : ∀ w ∈ ws, isWs w = true)
    (htail : tail = [] ∨ ∃ r, tail = ',' :: r) :
    splitByCommas (prefixStr pre ++ (ws ++ tail)) = .error .valueError := by
  apply splitByCommas_prefix_error pre _ hok
  intro col f
  rw [expandTabs_append]
  refine parseItems_empty_item _ _ (expandTabs_ws _ ws hws) ?_ f
  rcases htail with rfl | ⟨r, rfl⟩
  · exact .inl rfl
  · obtain ⟨col', hc⟩ := expandTabs_cons_nontab (colAfter col ws) ',' r (by decide)
    exact .inr ⟨_, hc⟩

/-- **Rejections** (the three classes of the property in one statement): behind any well-formed
    prefix `item,item,…,` (possibly empty), (1) an opening quote with no unescaped closing quote,
    (2) a quoted item followed — after optional whitespace — by anything but a comma, and (3) an empty
    unquoted item (end of string or a comma where an item must start) all raise ValueError. -/
theorem split_commas_rejects (pre : List (List Char)) (hok : ∀ i ∈ pre, okItem i = true) :
    (∀ body, noClosingQuote body = true →
      splitByCommas (prefixStr pre ++ '"' :: body) = .error .valueError) ∧
    (∀ item ws c rest, okItem item = true → (∀ w ∈ ws, isWs w = true) → isWs c = false → c ≠ ',' →
      splitByCommas (prefixStr pre ++ (quote item ++ (ws ++ c :: rest))) = .error .valueError) ∧
    (∀ ws tail, (∀ w ∈ ws, isWs w = true) → (tail = [] ∨ ∃ r, tail = ',' :: r) →
      splitByCommas (prefixStr pre ++ (ws ++ tail)) = .error .valueError) :=
  ⟨fun body hb => split_commas_rejects_unbalanced pre body hok hb,
   fun item ws c rest hi hws hc1 hc2 => split_commas_rejects_text_after_quote pre item ws c rest hok hi hws hc1 hc2,
   fun ws tail hws ht => split_commas_rejects_empty_item pre ws tail hok hws ht⟩

example : (∀ i ∈ [['a', ','], ['b']], okItem i = true) ∧
    prefixStr [['a', ','], ['b']] = ['"', 'a', ',', '"', ',', 'b', ','] := by decide +kernel

/-- every failure of `split_by_commas` is a ValueError: the parser's fuel (length of the input + 1)
    is never exhausted -/
theorem split_commas_fuel_sufficient (value : List Char) (e : Err)
    (h : splitByCommas value = .error e) : e = .valueError :=
  parseItems_error _ _ e h (Nat.lt_succ_self _)

end Oslo.Split
