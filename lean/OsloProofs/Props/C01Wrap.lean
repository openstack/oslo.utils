/-
C01 at the level of the InspectWrapper: what the wrapper running all the inspectors concludes once
the whole stream has been read through it and closed is a function of the bytes alone.  The closed
wrapper holds, in order, `(runChunks i cs).1` for each initial inspector `i` (`wrapper_run`); its
`formats` / `format` answer is a function of the per-inspector (name, `format_match`) results
(`wrapper_formats_eq_of_verdicts`); so the per-inspector theorems of C01 lift to the wrapper — with
no stream hypothesis for wrappers restricted to the eight fixed-region formats, and under the
hypotheses of the VHDX / VMDK theorems (for VMDK also every stream the inspector cannot match,
`VmdkNoMatch`, so that non-VMDK binary images through the full wrapper are covered) otherwise.
Wrappers with an expected format, where the pipe can abort before the end of the source, are in
Props/C01WrapExp.lean.
-/
import OsloProofs.Lemmas.WrapRun
import OsloProofs.Lemmas.VmdkNoMatch
import OsloProofs.Props.C03Stable
import OsloProofs.Props.C01Vmdk
import OsloProofs.Props.C01Vhdx
namespace Oslo.Insp

theorem lemma_mk_distinct (expected : Option String) (allowed : List String) :
    Distinct realOps (Wrap.mk' expected allowed).insps := by
  have hall : Fmt.all.Pairwise (fun a b => a.name ≠ b.name) := by decide
  unfold Distinct Wrap.mk'
  simp only
  rw [List.pairwise_filterMap]
  apply (hall.sublist List.filter_sublist).imp
  intro a b hab ia hia ib hib
  show ia.fmt.name ≠ ib.fmt.name
  rw [lemma_init_fmt hia, lemma_init_fmt hib]
  exact hab

theorem lemma_runChunks_fst (i : Insp) (cs : List Bytes) : (runChunks i cs).1 = (feed i cs).1.finish := rfl

theorem lemma_runChunks_snd (i : Insp) (cs : List Bytes) : (runChunks i cs).2 = (feed i cs).2 := rfl

theorem lemma_run_name (i : Insp) (cs : List Bytes) : (runChunks i cs).1.fmt.name = i.fmt.name := by
  have := gfeed_name realOps realOps_nameStable cs i
  rw [gfeed_real] at this
  exact this

/-- **wrapper_run_generic** — for an arbitrary list of inspectors with pairwise distinct names, in a
    wrapper with no expected format and nothing errored yet: reading the chunk list `cs` through the
    wrapper hands every chunk to the reader, ends normally (`close()` at the end of the source), and
    the closed wrapper holds, in the same order, `(runChunks i cs).1` for each initial inspector `i`
    — each inspector fed chunk by chunk until its first error (never again afterwards), then
    finished; an inspector's name is in the errored set exactly when its feed raised. -/
theorem wrapper_run_generic (w0 : Wrap Insp) (hd : Distinct realOps w0.insps) (he : w0.errored = [])
    (hx : w0.expected = none) (cs : List Bytes) :
    ∃ w', Wrap.pipe realOps w0 cs [] = (cs, w', .done) ∧
      w'.insps = w0.insps.map (fun i => (runChunks i cs).1) ∧
      w'.finished = true ∧ w'.expected = none ∧
      ∀ n, n ∈ w'.errored ↔ ∃ i ∈ w0.insps, i.fmt.name = n ∧ (feed i cs).2.isSome = true := by
  obtain ⟨w', hp, hi, hf, hxp, herr⟩ := pipe_run realOps realOps_nameStable w0 hd he hx cs
  refine ⟨w', hp, ?_, hf, hxp, ?_⟩
  · rw [hi]
    apply List.map_congr_left
    intro i _
    rw [gfeed_real]
    rfl
  · intro n
    have := herr n
    simp only [gfeed_real] at this
    exact this

/-- **wrapper_run** — `wrapper_run_generic` for the wrapper the code builds:
    `InspectWrapper(source, None, allowed)` with any `allowed` (`[]` = all ten formats). -/
theorem wrapper_run (allowed : List String) (cs : List Bytes) :
    ∃ w', Wrap.pipe realOps (Wrap.mk' none allowed) cs [] = (cs, w', .done) ∧
      w'.insps = (Wrap.mk' none allowed).insps.map (fun i => (runChunks i cs).1) ∧
      w'.finished = true ∧ w'.expected = none ∧
      ∀ n, n ∈ w'.errored ↔
        ∃ i ∈ (Wrap.mk' none allowed).insps, i.fmt.name = n ∧ (feed i cs).2.isSome = true :=
  wrapper_run_generic (Wrap.mk' none allowed) (lemma_mk_distinct none allowed) rfl rfl cs

/-- the wrapper after the whole chunk list was read through it and it was closed -/
def pipeFinal (allowed : List String) (cs : List Bytes) : Wrap Insp :=
  (Wrap.pipe realOps (Wrap.mk' none allowed) cs []).2.1

theorem lemma_final (allowed : List String) (cs : List Bytes) :
    (pipeFinal allowed cs).insps = (Wrap.mk' none allowed).insps.map (fun i => (runChunks i cs).1) ∧
    (pipeFinal allowed cs).finished = true ∧ (pipeFinal allowed cs).expected = none ∧
    ∀ n, n ∈ (pipeFinal allowed cs).errored ↔
      ∃ i ∈ (Wrap.mk' none allowed).insps, i.fmt.name = n ∧ (feed i cs).2.isSome = true := by
  obtain ⟨w', hp, h⟩ := wrapper_run allowed cs
  simp only [pipeFinal, hp]
  exact h

/-- a wrapper over bare (name, format_match result) pairs -/
def matchOps : IOps (String × Except Err Bool) where
  name p := p.1
  eat p _ := (p, none)
  complete _ := true
  fmatch p := p.2
  finish p := p

/-- the `formats` answer (names) of a closed wrapper, computed from the list of per-inspector
    (name, format_match result) pairs alone -/
def namesAnswer (l : List (String × Except Err Bool)) : Except Err (Option (List String)) :=
  exMap (Option.map (List.map (fun p => p.1)))
    (Wrap.formats matchOps { insps := l, errored := [], expected := none, finished := true })

/-- the `format` answer (name or error) of a closed wrapper, computed from the same list -/
def nameAnswer (l : List (String × Except Err Bool)) : Except Err (Option String) :=
  exMap (Option.map (fun p => p.1))
    (Wrap.format matchOps { insps := l, errored := [], expected := none, finished := true })

/-- the name in a `format` answer -/
def fmtName (r : Except Err (Option Insp)) : Except Err (Option String) :=
  exMap (Option.map (fun i : Insp => i.fmt.name)) r

theorem lemma_namesOf_exMap (r : Except Err (Option (List Insp))) :
    namesOf r = exMap (Option.map (List.map (fun i : Insp => i.fmt.name))) r := by
  cases r with
  | error e => rfl
  | ok o => cases o <;> rfl

/-- **wrapper_formats_eq_of_verdicts** — after the chunk list `cs` was read through
    `InspectWrapper(source, None, allowed)` and the wrapper closed, the names in its `formats` answer
    and the name-or-error of its `format` answer are the functions `namesAnswer` / `nameAnswer` of
    the list of pairs (format name, `format_match` result of `(runChunks i cs).1`) over the wrapper's
    initial inspectors `i`: nothing else about the run enters the answer. -/
theorem wrapper_formats_eq_of_verdicts (allowed : List String) (cs : List Bytes) :
    namesOf ((pipeFinal allowed cs).formats realOps) =
      namesAnswer ((Wrap.mk' none allowed).insps.map (fun i => (i.fmt.name, formatMatch (runChunks i cs).1))) ∧
    fmtName ((pipeFinal allowed cs).format realOps) =
      nameAnswer ((Wrap.mk' none allowed).insps.map (fun i => (i.fmt.name, formatMatch (runChunks i cs).1))) := by
  obtain ⟨hi, hfin, _, _⟩ := lemma_final allowed cs
  have hl : (Wrap.mk' none allowed).insps.map (fun i => (i.fmt.name, formatMatch (runChunks i cs).1)) =
      (pipeFinal allowed cs).insps.map (fun i : Insp => (i.fmt.name, formatMatch i)) := by
    rw [hi, List.map_map]
    apply List.map_congr_left
    intro i _
    simp only [Function.comp, lemma_run_name]
  constructor
  · have := formats_map realOps matchOps (fun i : Insp => (i.fmt.name, formatMatch i)) (fun _ => rfl)
      (fun _ => rfl) (pipeFinal allowed cs)
      { insps := _, errored := [], expected := none, finished := true } hl hfin rfl
    rw [namesAnswer, this, exMap_exMap, lemma_namesOf_exMap]
    congr 1
    funext o
    cases o <;> simp [Function.comp]
  · have := format_map realOps matchOps (fun i : Insp => (i.fmt.name, formatMatch i)) (fun _ => rfl)
      (fun _ => rfl) (pipeFinal allowed cs)
      { insps := _, errored := [], expected := none, finished := true } hl hfin rfl
    rw [nameAnswer, this, exMap_exMap, fmtName]
    congr 1
    funext o
    cases o <;> simp [Function.comp]

/-- **wrapper_answer_eq_of_verdicts** — two chunk lists for which every inspector's `format_match`
    after the run agrees give the same `formats` names and the same `format` name-or-error. -/
theorem wrapper_answer_eq_of_verdicts (allowed : List String) (c1 c2 : List Bytes)
    (h : ∀ i ∈ (Wrap.mk' none allowed).insps,
      formatMatch (runChunks i c1).1 = formatMatch (runChunks i c2).1) :
    namesOf ((pipeFinal allowed c1).formats realOps) = namesOf ((pipeFinal allowed c2).formats realOps) ∧
    fmtName ((pipeFinal allowed c1).format realOps) = fmtName ((pipeFinal allowed c2).format realOps) := by
  have hl : (Wrap.mk' none allowed).insps.map (fun i => (i.fmt.name, formatMatch (runChunks i c1).1)) =
      (Wrap.mk' none allowed).insps.map (fun i => (i.fmt.name, formatMatch (runChunks i c2).1)) := by
    apply List.map_congr_left
    intro i hi
    rw [h i hi]
  obtain ⟨a1, b1⟩ := wrapper_formats_eq_of_verdicts allowed c1
  obtain ⟨a2, b2⟩ := wrapper_formats_eq_of_verdicts allowed c2
  exact ⟨by rw [a1, a2, hl], by rw [b1, b2, hl]⟩

/-- what the caller of `format` reads off the inspector it gets: its name and its verdict -/
structure Summary where
  name : String
  fmtMatch : Except Err Bool
  complete : Bool
  vsize : Except Err Int
  safety : Safety

def summary (i : Insp) : Summary :=
  { name := i.fmt.name, fmtMatch := formatMatch i, complete := i.complete, vsize := virtualSize i,
    safety := safetyCheck i }

def sumOps : IOps Summary where
  name s := s.name
  eat s _ := (s, none)
  complete s := s.complete
  fmatch s := s.fmtMatch
  finish s := s

theorem lemma_summary_run (i : Insp) (cs : List Bytes) :
    summary (runChunks i cs).1 =
      { name := i.fmt.name, fmtMatch := (verdict (runChunks i cs)).fmtMatch,
        complete := (verdict (runChunks i cs)).complete, vsize := (verdict (runChunks i cs)).vsize,
        safety := (verdict (runChunks i cs)).safety } := by
  simp only [summary, verdict, lemma_run_name]

/-- **wrapper_choice_is_run** — the inspector `format` returns from the closed wrapper is
    `(runChunks i cs).1` for one of the wrapper's initial inspectors `i`: its virtual size and
    safety-check outcome are the per-inspector verdict `verdict (runChunks i cs)` of C01. -/
theorem wrapper_choice_is_run (allowed : List String) (cs : List Bytes) (x : Insp)
    (h : (pipeFinal allowed cs).format realOps = .ok (some x)) :
    ∃ i ∈ (Wrap.mk' none allowed).insps, x = (runChunks i cs).1 ∧
      virtualSize x = (verdict (runChunks i cs)).vsize ∧ safetyCheck x = (verdict (runChunks i cs)).safety := by
  obtain ⟨h1, h2, _⟩ := formats_spec realOps (pipeFinal allowed cs) [x] (lemma_format_some realOps _ x h)
  have hx : x ∈ (pipeFinal allowed cs).insps := by
    by_cases hm : matchesOf realOps (pipeFinal allowed cs) = []
    · exact (List.mem_filter.mp (h2 hm ▸ List.mem_singleton_self x)).1
    · exact (List.mem_filter.mp (List.mem_filter.mp (h1 hm ▸ List.mem_singleton_self x)).1).1
  rw [(lemma_final allowed cs).1] at hx
  obtain ⟨i, hi, rfl⟩ := List.mem_map.mp hx
  exact ⟨i, hi, rfl, rfl, rfl⟩

/-- whatever `format` returns matches: a specific format's inspector by `format_specific_unique`,
    the raw inspector always -/
theorem lemma_choice_matches (w : Wrap Insp) (x : Insp) (h : w.format realOps = .ok (some x)) :
    formatMatch x = .ok true := by
  by_cases hr : x.fmt.name = "raw"
  · simp [formatMatch, Fmt.eq_raw_of_name _ hr]
  · exact (format_specific_unique realOps w x h hr).1

/-- what the wrapper's answer can depend on: name, `format_match`, and — for a matching inspector
    only — the rest of its verdict -/
def csum (i : Insp) : String × Except Err Bool × Option Summary :=
  (i.fmt.name, formatMatch i, if isOkTrue (formatMatch i) then some (summary i) else none)

def csumOps : IOps (String × Except Err Bool × Option Summary) where
  name p := p.1
  eat p _ := (p, none)
  complete _ := true
  fmatch p := p.2.1
  finish p := p

/-- the summary of a `format` answer — which matches — can be read off its `csum` -/
theorem lemma_summary_of_csum (r : Except Err (Option Insp)) (hm : ∀ x, r = .ok (some x) → formatMatch x = .ok true) :
    exMap (Option.map summary) r = exMap (fun o => o.bind (·.2.2)) (exMap (Option.map csum) r) := by
  cases r with
  | error e => rfl
  | ok o =>
    cases o with
    | none => rfl
    | some x => simp [exMap, csum, hm x rfl, isOkTrue]

/-- **wrapper_choice_eq_of_verdicts** — two chunk lists for which every inspector's `format_match`
    after the run agrees and every *matching* inspector's name-and-verdict summary agrees give
    `format` answers with the same summary: `format` fails with the same error in both, or answers
    "undecided" in both, or returns inspectors with the same name, `format_match`, `complete`,
    `virtual_size` and `safety_check` outcome.  (What a non-matching inspector would say about
    virtual size or safety never reaches the caller of `format`.) -/
theorem wrapper_choice_eq_of_verdicts (allowed : List String) (c1 c2 : List Bytes)
    (h : ∀ i ∈ (Wrap.mk' none allowed).insps,
      formatMatch (runChunks i c1).1 = formatMatch (runChunks i c2).1 ∧
      (formatMatch (runChunks i c1).1 = .ok true → summary (runChunks i c1).1 = summary (runChunks i c2).1)) :
    exMap (Option.map summary) ((pipeFinal allowed c1).format realOps) =
      exMap (Option.map summary) ((pipeFinal allowed c2).format realOps) := by
  obtain ⟨hi1, hfin1, _, _⟩ := lemma_final allowed c1
  obtain ⟨hi2, hfin2, _, _⟩ := lemma_final allowed c2
  have hl : (pipeFinal allowed c1).insps.map csum = (pipeFinal allowed c2).insps.map csum := by
    rw [hi1, hi2, List.map_map, List.map_map]
    apply List.map_congr_left
    intro i hi
    obtain ⟨hm, hs⟩ := h i hi
    simp only [Function.comp, csum, lemma_run_name, ← hm]
    cases hfm : formatMatch (runChunks i c1).1 with
    | error e => simp [isOkTrue]
    | ok b =>
      cases b with
      | false => simp [isOkTrue]
      | true => simp [isOkTrue, hs hfm]
  have e1 := format_map realOps csumOps csum (fun _ => rfl) (fun _ => rfl) (pipeFinal allowed c1)
    { insps := (pipeFinal allowed c1).insps.map csum, errored := [], expected := none, finished := true }
    rfl hfin1 rfl
  have e2 := format_map realOps csumOps csum (fun _ => rfl) (fun _ => rfl) (pipeFinal allowed c2)
    { insps := (pipeFinal allowed c1).insps.map csum, errored := [], expected := none, finished := true }
    hl hfin2 rfl
  rw [lemma_summary_of_csum _ (lemma_choice_matches (pipeFinal allowed c1)),
    lemma_summary_of_csum _ (lemma_choice_matches (pipeFinal allowed c2)), ← e1, ← e2]

theorem lemma_wrap_ext (a b : Wrap Insp) (h1 : a.insps = b.insps) (h2 : a.errored = b.errored)
    (h3 : a.expected = b.expected) (h4 : a.finished = b.finished) : a = b := by
  cases a; cases b; simp_all

/-- **wrapper_chunk_independent_static** — for `InspectWrapper(source, None, allowed)` with a
    non-empty `allowed` naming only formats whose regions are fixed at initialisation (raw, qcow2,
    qed, vhd, vdi, iso, gpt, luks), and ANY two chunk lists with the same concatenation (empty
    chunks included, no hypothesis on the bytes): after the whole source was read through the wrapper
    and the wrapper closed, the two wrappers are in the *same state* (every inspector, the errored
    set — which is empty —, the flags); hence `formats` and `format` give the same answer — the same
    error, or the same inspectors with the same virtual size and safety-check outcome. -/
theorem wrapper_chunk_independent_static (allowed : List String) (hne : allowed ≠ [])
    (hst : ∀ n ∈ allowed, ∀ f, Fmt.ofName? n = some f → f.static = true)
    (c1 c2 : List Bytes) (h : c1.flatten = c2.flatten) :
    pipeFinal allowed c1 = pipeFinal allowed c2 ∧
    (pipeFinal allowed c1).errored = [] ∧
    (pipeFinal allowed c1).formats realOps = (pipeFinal allowed c2).formats realOps ∧
    (pipeFinal allowed c1).format realOps = (pipeFinal allowed c2).format realOps := by
  have hstat : ∀ i ∈ (Wrap.mk' none allowed).insps, i.fmt.static = true := by
    intro i hi
    have hname := allowed_respected none allowed hne i hi
    exact hst _ hname _ (Fmt.ofName?_name i.fmt)
  have herr : ∀ cs, (pipeFinal allowed cs).errored = [] := by
    intro cs
    apply List.eq_nil_iff_forall_not_mem.mpr
    intro n hn
    obtain ⟨i, hi, _, hie⟩ := ((lemma_final allowed cs).2.2.2 n).mp hn
    rw [static_never_raises i.fmt (hstat i hi) i ((lemma_mk'_mem hi).1) cs] at hie
    simp at hie
  have heq : pipeFinal allowed c1 = pipeFinal allowed c2 := by
    obtain ⟨hi1, hf1, hx1, _⟩ := lemma_final allowed c1
    obtain ⟨hi2, hf2, hx2, _⟩ := lemma_final allowed c2
    apply lemma_wrap_ext
    · rw [hi1, hi2]
      apply List.map_congr_left
      intro i hi
      rw [verdict_chunk_independent_static i.fmt (hstat i hi) i ((lemma_mk'_mem hi).1) c1 c2 h]
    · rw [herr c1, herr c2]
    · rw [hx1, hx2]
    · rw [hf1, hf2]
  exact ⟨heq, herr c1, by rw [heq], by rw [heq]⟩

theorem lemma_not_allowed (allowed : List String) (i : Insp) (hi : i ∈ (Wrap.mk' none allowed).insps)
    (h : allowed ≠ [] ∧ i.fmt.name ∉ allowed) : False :=
  h.2 (allowed_respected none allowed h.1 i hi)

theorem lemma_insp_eq_of_verdict (i : Insp) (c1 c2 : List Bytes)
    (h : verdict (runChunks i c1) = verdict (runChunks i c2)) :
    formatMatch (runChunks i c1).1 = formatMatch (runChunks i c2).1 ∧
    (formatMatch (runChunks i c1).1 = .ok true → summary (runChunks i c1).1 = summary (runChunks i c2).1) ∧
    (feed i c1).2 = (feed i c2).2 :=
  ⟨congrArg Verdict.fmtMatch h, fun _ => by rw [lemma_summary_run, lemma_summary_run, h],
    congrArg Verdict.raised h⟩

theorem lemma_insp_eq (allowed : List String) (c1 c2 : List Bytes) (h : c1.flatten = c2.flatten)
    (hx : (VhdxForward c1.flatten ∧ VhdxMetaSigOK c1.flatten) ∨ (allowed ≠ [] ∧ "vhdx" ∉ allowed))
    (hv : VmdkSparse c1.flatten ∨ VmdkNoMatch c1.flatten ∨ (allowed ≠ [] ∧ "vmdk" ∉ allowed)) :
    ∀ i ∈ (Wrap.mk' none allowed).insps,
      formatMatch (runChunks i c1).1 = formatMatch (runChunks i c2).1 ∧
      (formatMatch (runChunks i c1).1 = .ok true → summary (runChunks i c1).1 = summary (runChunks i c2).1) ∧
      (feed i c1).2 = (feed i c2).2 := by
  intro i hi
  have hinit := (lemma_mk'_mem hi).1
  have ofVerdict := lemma_insp_eq_of_verdict i c1 c2
  by_cases hs : i.fmt.static = true
  · exact ofVerdict (by rw [verdict_chunk_independent_static i.fmt hs i hinit c1 c2 h])
  · rcases Fmt.vhdx_or_vmdk_of_not_static _ hs with hf | hf
    · rcases hx with hx | hx
      · rw [hf] at hinit
        exact ofVerdict (by rw [vhdx_chunk_independent_partial i hinit c1 hx.1 hx.2,
          vhdx_chunk_independent_partial i hinit c2 (h ▸ hx.1) (h ▸ hx.2), h])
      · exact (lemma_not_allowed allowed i hi (by rw [hf]; exact hx)).elim
    · rcases hv with hv | hv | hv
      · rw [hf] at hinit
        exact ofVerdict (by rw [vmdk_chunk_independent_partial i hinit c1 hv,
          vmdk_chunk_independent_partial i hinit c2 (h ▸ hv), h])
      · rw [hf] at hinit
        obtain ⟨m1, r1⟩ := lemma_vmdk_nomatch i hinit c1 hv
        obtain ⟨m2, r2⟩ := lemma_vmdk_nomatch i hinit c2 (h ▸ hv)
        refine ⟨by rw [m1, m2], fun hm => ?_, by rw [r1, r2, h]⟩
        rw [m1] at hm
        simp at hm
      · exact (lemma_not_allowed allowed i hi (by rw [hf]; exact hv)).elim

/-- **wrapper_chunk_independent_partial** — for `InspectWrapper(source, None, allowed)` with ANY
    `allowed` (`[]` = all ten formats) and any two chunk lists with the same concatenation `s`
    (empty chunks included), under the hypotheses of the per-inspector theorems —
    * VHDX: `VhdxForward s ∧ VhdxMetaSigOK s`, or the VHDX inspector is not in the wrapper;
    * VMDK: `VmdkSparse s` (sparse-header mode), or `VmdkNoMatch s` (the stream does not start with
      `KDMV` and is shorter than 64 bytes or has a non-text byte among its first 64: every non-VMDK
      binary image), or the VMDK inspector is not in the wrapper —
    after the whole source was read through the wrapper and the wrapper closed:
    (a) `formats` answers with the same format names (or the same error),
    (b) `format` answers with the same name, or the same error,
    (c) the inspector `format` returns has the same name, `format_match`, `complete`, `virtual_size`
        and `safety_check` outcome in both runs (`Summary`),
    (d) the same inspectors are in the errored set.
    Missing: streams outside the hypotheses — they are the known-finding classes KF_D7 and KF_N4
    (VHDX metadata pointer backwards / bad metadata signature), KF_F1 (VMDK text-descriptor mode:
    streams whose first 64 bytes are all text, and `KDMV…` streams with a version outside {1,2,3} or
    shorter than 64 bytes — the early-parse residue) and KF_F3 (VMDK footer window), where the
    per-inspector verdict does depend on the chunking; and wrappers with an expected format. -/
theorem wrapper_chunk_independent_partial (allowed : List String) (c1 c2 : List Bytes)
    (h : c1.flatten = c2.flatten)
    (hx : (VhdxForward c1.flatten ∧ VhdxMetaSigOK c1.flatten) ∨ (allowed ≠ [] ∧ "vhdx" ∉ allowed))
    (hv : VmdkSparse c1.flatten ∨ VmdkNoMatch c1.flatten ∨ (allowed ≠ [] ∧ "vmdk" ∉ allowed)) :
    namesOf ((pipeFinal allowed c1).formats realOps) = namesOf ((pipeFinal allowed c2).formats realOps) ∧
    fmtName ((pipeFinal allowed c1).format realOps) = fmtName ((pipeFinal allowed c2).format realOps) ∧
    exMap (Option.map summary) ((pipeFinal allowed c1).format realOps) =
      exMap (Option.map summary) ((pipeFinal allowed c2).format realOps) ∧
    (∀ n, n ∈ (pipeFinal allowed c1).errored ↔ n ∈ (pipeFinal allowed c2).errored) := by
  have hall := lemma_insp_eq allowed c1 c2 h hx hv
  obtain ⟨hns, hn⟩ := wrapper_answer_eq_of_verdicts allowed c1 c2 (fun i hi => (hall i hi).1)
  have hf := wrapper_choice_eq_of_verdicts allowed c1 c2 (fun i hi => ⟨(hall i hi).1, (hall i hi).2.1⟩)
  refine ⟨hns, hn, hf, ?_⟩
  intro n
  rw [(lemma_final allowed c1).2.2.2 n, (lemma_final allowed c2).2.2.2 n]
  constructor
  · rintro ⟨i, hi, hn, he⟩
    exact ⟨i, hi, hn, by rw [← (hall i hi).2.2]; exact he⟩
  · rintro ⟨i, hi, hn, he⟩
    exact ⟨i, hi, hn, by rw [(hall i hi).2.2]; exact he⟩

theorem lemma_flatten_nonempty : ∀ (cs : List Bytes), (cs.filter (fun c => !c.isEmpty)).flatten = cs.flatten := by
  intro cs
  induction cs with
  | nil => rfl
  | cons c cs ih =>
    cases c with
    | nil => simpa using ih
    | cons b c => simp [ih]

/-- **wrapper_empty_chunks_static** — two chunk lists that differ only by empty chunks (inserted or
    removed anywhere) leave a wrapper over fixed-region formats in the same closed state. -/
theorem wrapper_empty_chunks_static (allowed : List String) (hne : allowed ≠ [])
    (hst : ∀ n ∈ allowed, ∀ f, Fmt.ofName? n = some f → f.static = true)
    (c1 c2 : List Bytes) (h : c1.filter (fun c => !c.isEmpty) = c2.filter (fun c => !c.isEmpty)) :
    pipeFinal allowed c1 = pipeFinal allowed c2 :=
  (wrapper_chunk_independent_static allowed hne hst c1 c2
    (by rw [← lemma_flatten_nonempty c1, ← lemma_flatten_nonempty c2, h])).1

/-- **wrapper_empty_chunks_partial** — the same for any wrapper, under the stream hypotheses of
    `wrapper_chunk_independent_partial` (same exclusions): inserting or removing empty chunks
    anywhere changes neither the `formats` names, nor the `format` answer, nor the summary of the
    inspector it returns.  Missing: streams in the classes KF_D7, KF_N4, KF_F1, KF_F3. -/
theorem wrapper_empty_chunks_partial (allowed : List String) (c1 c2 : List Bytes)
    (h : c1.filter (fun c => !c.isEmpty) = c2.filter (fun c => !c.isEmpty))
    (hx : (VhdxForward c1.flatten ∧ VhdxMetaSigOK c1.flatten) ∨ (allowed ≠ [] ∧ "vhdx" ∉ allowed))
    (hv : VmdkSparse c1.flatten ∨ VmdkNoMatch c1.flatten ∨ (allowed ≠ [] ∧ "vmdk" ∉ allowed)) :
    namesOf ((pipeFinal allowed c1).formats realOps) = namesOf ((pipeFinal allowed c2).formats realOps) ∧
    fmtName ((pipeFinal allowed c1).format realOps) = fmtName ((pipeFinal allowed c2).format realOps) ∧
    exMap (Option.map summary) ((pipeFinal allowed c1).format realOps) =
      exMap (Option.map summary) ((pipeFinal allowed c2).format realOps) := by
  obtain ⟨a, b, c, _⟩ := wrapper_chunk_independent_partial allowed c1 c2
    (by rw [← lemma_flatten_nonempty c1, ← lemma_flatten_nonempty c2, h]) hx hv
  exact ⟨a, b, c⟩

/-- **vmdk_nomatch_chunk_independent_partial** — for a stream that does not start with `KDMV` and is
    shorter than 64 bytes or has a non-text byte among its first 64 (`VmdkNoMatch`), and every
    chunking of it: the VMDK inspector's `format_match` ends `False`, and it raised
    (ImageFormatError, from `post_process`) exactly when at least 64 bytes were streamed.
    Missing (hence `_partial`): the rest of the verdict of this non-matching inspector
    (`virtual_size`, `safety_check`), which can keep a chunk-dependent residue of an early parse of
    the offset-0 descriptor region (KF_F1) — the wrapper never hands a non-matching inspector out. -/
theorem vmdk_nomatch_chunk_independent_partial (s0 : Insp) (h0 : Insp.init .vmdk = some s0)
    (chunks : List Bytes) (h : VmdkNoMatch chunks.flatten) :
    (verdict (runChunks s0 chunks)).fmtMatch = .ok false ∧
    (verdict (runChunks s0 chunks)).raised =
      if chunks.flatten.length < 64 then none else some .imageFormat :=
  lemma_vmdk_nomatch s0 h0 chunks h

instance instDecEqExceptW {α : Type} [DecidableEq α] : DecidableEq (Except Err α) := fun a b =>
  match a, b with
  | .ok x, .ok y => if h : x = y then isTrue (by rw [h]) else isFalse (by intro e; cases e; exact h rfl)
  | .error x, .error y => if h : x = y then isTrue (by rw [h]) else isFalse (by intro e; cases e; exact h rfl)
  | .ok _, .error _ => isFalse (by intro e; cases e)
  | .error _, .ok _ => isFalse (by intro e; cases e)

/-- a 512-byte qcow2 header: magic, version 3, no backing file, virtual size 1 GiB -/
def exQcowW : Bytes := qcowMagic ++ [0, 0, 0, 3] ++ zeros 16 ++ [0, 0, 0, 0, 64, 0, 0, 0] ++ zeros 480

theorem lemma_qcow_raw_static : ∀ n ∈ ["qcow2", "raw"], ∀ f, Fmt.ofName? n = some f → f.static = true := by
  intro n hn f hf
  simp only [List.mem_cons, List.mem_nil_iff, or_false] at hn
  rcases hn with rfl | rfl
  · have : Fmt.ofName? "qcow2" = some .qcow2 := by decide
    rw [this] at hf; cases hf; rfl
  · have : Fmt.ofName? "raw" = some .raw := by decide
    rw [this] at hf; cases hf; rfl

/-- the hypothesis of `wrapper_chunk_independent_static` is met by `allowed = ["qcow2", "raw"]` -/
example : ∀ n ∈ ["qcow2", "raw"], ∀ f, Fmt.ofName? n = some f → f.static = true :=
  lemma_qcow_raw_static

/-- the qcow2 header through a wrapper restricted to qcow2 and raw, two chunkings (one with an empty
    chunk): `format` answers qcow2 both times, with virtual size 1 GiB -/
example :
    fmtName ((pipeFinal ["qcow2", "raw"] [exQcowW]).format realOps) = .ok (some "qcow2") ∧
    fmtName ((pipeFinal ["qcow2", "raw"] [exQcowW.take 5, [], exQcowW.drop 5]).format realOps) =
      .ok (some "qcow2") ∧
    exMap (Option.map (fun i => virtualSize i))
        ((pipeFinal ["qcow2", "raw"] [exQcowW.take 5, [], exQcowW.drop 5]).format realOps) =
      .ok (some (.ok 1073741824)) := by
  decide +kernel

theorem lemma_exQcowW_hyps :
    exQcowW.length = 512 ∧ VmdkNoMatch exQcowW ∧ VhdxForward exQcowW ∧ VhdxMetaSigOK exQcowW := by
  have h : exQcowW.length = 512 ∧ VmdkNoMatch exQcowW := by decide +kernel
  exact ⟨h.1, h.2, vhdx_hyps_of_short _ (by rw [h.1]; decide)⟩

/-- the hypotheses of `wrapper_chunk_independent_partial` for the FULL wrapper (`allowed = []`) are
    met by the qcow2 header (a stream the VMDK inspector cannot match) and by the sparse VMDK image
    `exVmdk` of C01Vmdk.lean -/
example : exQcowW.length = 512 ∧ VmdkNoMatch exQcowW ∧ VhdxForward exQcowW ∧ VhdxMetaSigOK exQcowW :=
  lemma_exQcowW_hyps

example : VmdkSparse exVmdk ∧ VhdxForward exVmdk ∧ VhdxMetaSigOK exVmdk := by
  suffices h : VmdkSparse exVmdk ∧ exVmdk.length < 262144 from ⟨h.1, vhdx_hyps_of_short _ h.2⟩
  unfold exVmdk kdmv
  rw [ascii_ofList, ascii_ofList]
  decide +kernel

/-- the full ten-format wrapper on concrete chunkings: the qcow2 header is reported as qcow2 (the VMDK
    inspector raised and is in the errored set), the sparse VMDK image as vmdk -/
example :
    namesOf ((pipeFinal [] [exQcowW.take 70, [], exQcowW.drop 70]).formats realOps) = .ok (some ["qcow2"]) ∧
    (pipeFinal [] [exQcowW.take 70, [], exQcowW.drop 70]).errored = ["vmdk"] ∧
    fmtName ((pipeFinal [] [exVmdk.take 70, exVmdk.drop 70]).format realOps) = .ok (some "vmdk") := by
  unfold exVmdk kdmv
  rw [ascii_ofList, ascii_ofList]
  decide +kernel

/-- … hence, by the theorem, EVERY chunking of the qcow2 header through the full wrapper is reported
    as qcow2 with virtual size 1 GiB and a passed safety check -/
example (cs : List Bytes) (h : cs.flatten = exQcowW) :
    fmtName ((pipeFinal [] cs).format realOps) = .ok (some "qcow2") ∧
    exMap (Option.map (fun s : Summary => (s.vsize, s.safety)))
        (exMap (Option.map summary) ((pipeFinal [] cs).format realOps)) =
      .ok (some (.ok 1073741824, .ok)) := by
  have hflat : cs.flatten = [exQcowW].flatten := by simp [h]
  have hyp := lemma_exQcowW_hyps.2
  obtain ⟨_, hn, hs, _⟩ := wrapper_chunk_independent_partial [] cs [exQcowW] hflat
    (Or.inl (h ▸ hyp.2)) (Or.inr (Or.inl (h ▸ hyp.1)))
  rw [hn, hs]
  decide +kernel

end Oslo.Insp
