/-
C07 — virtual_size equals the disk size the image declares.

Decoder round trips for every representable value, then per format: for every stream that is
well-formed in the stated sense and every chunking, `virtual_size` after the whole stream is the
declared size; and it is 0 for as long as the size-carrying structure has not been captured.
This file covers the eight formats whose regions are fixed at initialisation.
-/
import OsloProofs.Props.C01
namespace Oslo.Insp

/-- big-endian / little-endian encoders (what an image writer does) -/
def encodeLE : Nat → Nat → Bytes
  | 0, _ => []
  | k + 1, n => UInt8.ofNat (n % 256) :: encodeLE k (n / 256)

def encodeBE (k n : Nat) : Bytes := (encodeLE k n).reverse

theorem le_encode (k : Nat) : ∀ n, n < 256 ^ k → leNat (encodeLE k n) = n := by
  induction k with
  | zero => intro n h; simp at h; simp [encodeLE, leNat, h]
  | succ k ih =>
    intro n h
    have hk : n / 256 < 256 ^ k := by
      rw [Nat.pow_succ] at h
      exact Nat.div_lt_of_lt_mul (by omega)
    have := ih (n / 256) hk
    simp only [encodeLE, leNat, List.foldr_cons] at this ⊢
    rw [this]
    have : (UInt8.ofNat (n % 256)).toNat = n % 256 := by
      simp [UInt8.toNat_ofNat']
    rw [this]; omega

theorem lemma_beNat_reverse (l : Bytes) : beNat l.reverse = leNat l := by
  induction l with
  | nil => rfl
  | cons a l ih =>
    simp only [beNat, leNat, List.reverse_cons, List.foldl_append, List.foldl_cons, List.foldl_nil,
      List.foldr_cons] at ih ⊢
    rw [ih]; omega

theorem be_encode (k n : Nat) (h : n < 256 ^ k) : beNat (encodeBE k n) = n := by
  rw [encodeBE, lemma_beNat_reverse, le_encode k n h]

theorem lemma_encodeLE_length (k n : Nat) : (encodeLE k n).length = k := by
  induction k generalizing n with
  | zero => rfl
  | succ k ih => simp [encodeLE, ih]

theorem lemma_encodeBE_length (k n : Nat) : (encodeBE k n).length = k := by
  rw [encodeBE, List.length_reverse, lemma_encodeLE_length]

theorem lemma_unpackLE_encode (k n : Nat) (h : n < 256 ^ k) : unpackLE k (encodeLE k n) = .ok n := by
  rw [unpackLE, if_pos (lemma_encodeLE_length k n), le_encode k n h]

theorem lemma_header0_complete (s : Bytes) (L : Nat) (done : Bool) :
    (⟨0, 0, L, none, sliceOf s 0 L, false, done⟩ : Region).complete = decide (L ≤ s.length) := by
  rw [lemma_complete_plain _ rfl rfl, lemma_sliceOf_length, Nat.sub_zero]
  exact decide_eq_decide.mpr (lemma_eq_min_iff _ _)

/-- **vsize_vhd** — VHD footer size field (big-endian, offset 40), any 64-bit value -/
theorem vsize_vhd (s0 : Insp) (h0 : Insp.init .vhd = some s0) (chunks : List Bytes) (n : Nat)
    (hn : n < 2 ^ 64) (hlen : 512 ≤ chunks.flatten.length)
    (hmagic : chunks.flatten.take 8 = ascii "conectix")
    (hsize : slice chunks.flatten 40 48 = encodeBE 8 n) :
    virtualSize (runChunks s0 chunks).1 = .ok (n : Int) := by
  rw [run_plain_eq_spec .vhd rfl s0 h0, lemma_init_eq h0]
  have hl8 : (ascii "conectix").length = 8 := by rw [ascii_ofList]; rfl
  simp only [virtualSize, formatMatch, Insp.region, lookupR, Fmt.initRegions, Gen.vhd_regions, specRegions,
    if_true, bind, Except.bind, pure, Except.pure, lemma_header0_complete, hlen, decide_true, Bool.not_true,
    Bool.false_eq_true, if_false, startsWith, hl8, lemma_take_sliceOf0 _ 512 8 (by decide), hmagic, BEq.rfl,
    lemma_slice_sliceOf0 _ 512 40 48 (by decide), hsize, unpackBE, lemma_encodeBE_length, if_true, be_encode 8 n hn]

/-- before the 512-byte footer copy is complete the VHD size is unknown (0) -/
theorem vsize_zero_until_captured_vhd (s0 : Insp) (h0 : Insp.init .vhd = some s0) (chunks : List Bytes)
    (hlen : chunks.flatten.length < 512) : virtualSize (feed s0 chunks).1 = .ok 0 := by
  rw [feed_plain_eq_spec .vhd rfl s0 h0, lemma_init_eq h0]
  simp only [virtualSize, Insp.region, lookupR, Fmt.initRegions, Gen.vhd_regions, specRegions, if_true, bind,
    Except.bind, pure, Except.pure, lemma_header0_complete, decide_eq_false (Nat.not_le.mpr hlen), Bool.not_false,
    if_true]

/-- **vsize_qcow2** — qcow2 header size field (big-endian, offset 24), any 64-bit value -/
theorem vsize_qcow2 (s0 : Insp) (h0 : Insp.init .qcow2 = some s0) (chunks : List Bytes) (n : Nat)
    (hn : n < 2 ^ 64) (hlen : 512 ≤ chunks.flatten.length)
    (hmagic : slice chunks.flatten 0 4 = qcowMagic)
    (hsize : slice chunks.flatten 24 32 = encodeBE 8 n) :
    virtualSize (runChunks s0 chunks).1 = .ok (n : Int) := by
  rw [run_qcow_eq_spec s0 h0, lemma_init_eq h0]
  simp only [virtualSize, Gen.qcow2_regions, specRegions, qinfoR, lemma_header0_complete, hlen, decide_true,
    Bool.true_and, lemma_slice_slice0 _ 32 0 4 (by decide), lemma_slice_slice0 _ 32 24 32 (by decide),
    lemma_slice_sliceOf0 _ 512 0 4 (by decide), lemma_slice_sliceOf0 _ 512 24 32 (by decide), hmagic, BEq.rfl,
    if_true, hsize, be_encode 8 n hn]

/-- before the 512-byte header region is complete the qcow2 size is unknown (0) -/
theorem vsize_zero_until_captured_qcow2 (s0 : Insp) (h0 : Insp.init .qcow2 = some s0) (chunks : List Bytes)
    (hlen : chunks.flatten.length < 512) : virtualSize (feed s0 chunks).1 = .ok 0 := by
  rw [feed_qcow_eq_spec s0 h0, lemma_init_eq h0]
  simp only [virtualSize, Gen.qcow2_regions, specRegions, qinfoR, lemma_header0_complete,
    decide_eq_false (Nat.not_le.mpr hlen), Bool.false_and, Bool.false_eq_true, if_false]

/-- **vsize_vdi** — VDI disk size (little-endian, offset 0x170), any 64-bit value -/
theorem vsize_vdi (s0 : Insp) (h0 : Insp.init .vdi = some s0) (chunks : List Bytes) (n : Nat)
    (hn : n < 2 ^ 64) (hlen : 512 ≤ chunks.flatten.length)
    (hsig : slice chunks.flatten 0x40 0x44 = encodeLE 4 0xbeda107f)
    (hsize : slice chunks.flatten 0x170 0x178 = encodeLE 8 n) :
    virtualSize (runChunks s0 chunks).1 = .ok (n : Int) := by
  rw [run_plain_eq_spec .vdi rfl s0 h0, lemma_init_eq h0]
  simp only [virtualSize, formatMatch, Insp.region, lookupR, Fmt.initRegions, Gen.vdi_regions, specRegions,
    if_true, bind, Except.bind, pure, Except.pure, lemma_header0_complete, hlen, decide_true, Bool.not_true,
    Bool.false_eq_true, if_false, lemma_slice_sliceOf0 _ 512 0x40 0x44 (by decide),
    lemma_slice_sliceOf0 _ 512 0x170 0x178 (by decide), hsig, hsize, lemma_unpackLE_encode 4 0xbeda107f (by decide),
    lemma_unpackLE_encode 8 n hn, BEq.rfl]

theorem vsize_zero_until_captured_vdi (s0 : Insp) (h0 : Insp.init .vdi = some s0) (chunks : List Bytes)
    (hlen : chunks.flatten.length < 512) : virtualSize (feed s0 chunks).1 = .ok 0 := by
  rw [feed_plain_eq_spec .vdi rfl s0 h0, lemma_init_eq h0]
  simp only [virtualSize, Insp.region, lookupR, Fmt.initRegions, Gen.vdi_regions, specRegions, if_true, bind,
    Except.bind, pure, Except.pure, lemma_header0_complete, decide_eq_false (Nat.not_le.mpr hlen), Bool.not_false,
    if_true]

/-- **vsize_raw / vsize_gpt** — the stream length, whatever the bytes -/
theorem vsize_raw (s0 : Insp) (h0 : Insp.init .raw = some s0) (chunks : List Bytes) :
    virtualSize (runChunks s0 chunks).1 = .ok (chunks.flatten.length : Int) := by
  rw [run_plain_eq_spec .raw rfl s0 h0, lemma_init_eq h0]
  rfl

theorem vsize_gpt (s0 : Insp) (h0 : Insp.init .gpt = some s0) (chunks : List Bytes) :
    virtualSize (runChunks s0 chunks).1 = .ok (chunks.flatten.length : Int) := by
  rw [run_plain_eq_spec .gpt rfl s0 h0, lemma_init_eq h0]
  rfl

/-- **vsize_qed** — QED declares no size of its own (the inspector inherits the base class): the stream
    length, whatever the bytes and the chunking -/
theorem vsize_qed (s0 : Insp) (h0 : Insp.init .qed = some s0) (chunks : List Bytes) :
    virtualSize (runChunks s0 chunks).1 = .ok (chunks.flatten.length : Int) := by
  rw [run_plain_eq_spec .qed rfl s0 h0, lemma_init_eq h0]
  rfl

/-- the three formats without a declared size agree with one another on every stream and chunking -/
theorem vsize_undeclared_agree (r g q : Insp) (hr : Insp.init .raw = some r) (hg : Insp.init .gpt = some g)
    (hq : Insp.init .qed = some q) (chunks chunks' : List Bytes) (h : chunks.flatten = chunks'.flatten) :
    virtualSize (runChunks r chunks).1 = virtualSize (runChunks g chunks').1 ∧
    virtualSize (runChunks g chunks).1 = virtualSize (runChunks q chunks').1 := by
  rw [vsize_raw r hr, vsize_gpt g hg, vsize_gpt g hg, vsize_qed q hq, h]
  exact ⟨rfl, rfl⟩

/-- **vsize_luks** — stream length minus payload offset (big-endian sectors at offset 104) times 512 -/
theorem vsize_luks (s0 : Insp) (h0 : Insp.init .luks = some s0) (chunks : List Bytes) (po : Nat)
    (hpo : po < 2 ^ 32) (hlen : 108 ≤ chunks.flatten.length)
    (hoff : slice chunks.flatten 104 108 = encodeBE 4 po) :
    virtualSize (runChunks s0 chunks).1 = .ok ((chunks.flatten.length : Int) - (po : Int) * 512) := by
  rw [run_plain_eq_spec .luks rfl s0 h0, lemma_init_eq h0]
  have hd : (slice (sliceOf chunks.flatten 0 592) 0 108).length = 108 := by
    rw [lemma_slice_length, lemma_sliceOf_length]; omega
  simp only [virtualSize, luksHeader, Insp.region, lookupR, Fmt.initRegions, Gen.luks_regions, specRegions,
    if_true, bind, Except.bind, pure, Except.pure, hd, ne_eq, not_true_eq_false, if_false,
    lemma_slice_slice0 _ 108 104 108 (by decide), lemma_slice_sliceOf0 _ 592 104 108 (by decide), hoff,
    be_encode 4 po hpo]

/-- **vsize_iso** — volume blocks (little-endian half, offset 80) times logical block size
    (little-endian half, offset 128) of the primary volume descriptor at 32 KiB -/
theorem vsize_iso (s0 : Insp) (h0 : Insp.init .iso = some s0) (chunks : List Bytes) (blocks bs : Nat)
    (hb : blocks < 2 ^ 32) (hbs : bs < 2 ^ 16) (hlen : 34816 ≤ chunks.flatten.length)
    (hident : slice chunks.flatten 32769 32774 = ascii "CD001")
    (htype : chunks.flatten[32768]? = some 1)
    (hblocks : slice chunks.flatten 32848 32852 = encodeLE 4 blocks)
    (hbsz : slice chunks.flatten 32896 32898 = encodeLE 2 bs) :
    virtualSize (runChunks s0 chunks).1 = .ok ((blocks * bs : Nat) : Int) := by
  rw [run_plain_eq_spec .iso rfl s0 h0, lemma_init_eq h0]
  generalize chunks.flatten = s at *
  have hc1 : (⟨0, 0, 32768, none, sliceOf s 0 32768, false, false⟩ : Region).complete = true := by
    rw [lemma_header0_complete]; exact decide_eq_true (by omega)
  have hc2 : (⟨1, 32768, 2048, none, sliceOf s 32768 2048, false, false⟩ : Region).complete = true := by
    rw [lemma_complete_plain _ rfl rfl, lemma_sliceOf_length]; exact decide_eq_true (by dsimp only; omega)
  have e1 : slice (sliceOf s 32768 2048) 1 6 = ascii "CD001" :=
    (lemma_slice_sliceOf s 32768 2048 1 6 (by decide)).trans hident
  have e2 : slice (slice (sliceOf s 32768 2048) 80 88) 0 4 = encodeLE 4 blocks := by
    rw [lemma_slice_slice _ 80 88 0 4 (by decide), lemma_slice_sliceOf s 32768 2048 80 84 (by decide)]
    exact hblocks
  have e3 : slice (slice (sliceOf s 32768 2048) 128 132) 0 2 = encodeLE 2 bs := by
    rw [lemma_slice_slice _ 128 132 0 2 (by decide), lemma_slice_sliceOf s 32768 2048 128 130 (by decide)]
    exact hbsz
  have e4 : (sliceOf s 32768 2048)[0]? = some 1 := by
    rw [sliceOf, List.getElem?_take_of_lt (by decide), List.getElem?_drop]; exact htype
  simp only [virtualSize, formatMatch, Insp.complete, Insp.region, lookupR, Fmt.initRegions, Gen.iso_regions,
    specRegions, String.reduceEq, Nat.reduceAdd, if_true, UInt8.reduceToNat, ne_eq, not_true_eq_false, List.all_cons, List.all_nil, hc1, hc2, Bool.and_self, Bool.not_true, Bool.false_eq_true, if_false,
    bind, Except.bind, pure, Except.pure, e1, BEq.rfl, Bool.true_or, e2, e3, e4,
    lemma_unpackLE_encode 4 blocks hb, lemma_unpackLE_encode 2 bs hbs]
  rfl

theorem vsize_zero_until_captured_iso (s0 : Insp) (h0 : Insp.init .iso = some s0) (chunks : List Bytes)
    (hlen : chunks.flatten.length < 34816) : virtualSize (feed s0 chunks).1 = .ok 0 := by
  rw [feed_plain_eq_spec .iso rfl s0 h0, lemma_init_eq h0]
  have hc2 : (⟨1, 32768, 2048, none, sliceOf chunks.flatten 32768 2048, false, false⟩ : Region).complete = false := by
    rw [lemma_complete_plain _ rfl rfl, lemma_sliceOf_length]; exact decide_eq_false (by dsimp only; omega)
  simp only [virtualSize, Insp.complete, Fmt.initRegions, Gen.iso_regions, specRegions, List.all_cons,
    List.all_nil, hc2, Bool.and_false, Bool.false_and, Bool.not_false, if_true, pure, Except.pure]

/-! non-vacuity: encoders produce what the decoders read, on extreme values -/
example : beNat (encodeBE 8 (2 ^ 64 - 1)) = 2 ^ 64 - 1 ∧ leNat (encodeLE 8 (2 ^ 63)) = 2 ^ 63 ∧
    encodeBE 4 1 = [0, 0, 0, 1] ∧ encodeLE 2 2048 = [0, 8] := by decide

end Oslo.Insp
