/-
C07 for VMDK — `virtual_size` of a well-formed sparse VMDK is capacity sectors × 512, for every
representable capacity and every chunking; and it is 0 for as long as the descriptor (which carries
the createType that makes the capacity meaningful) has not been captured completely.
The first is a corollary of C01-7 (`vmdk_chunk_independent_partial`), the second of its state-level
form (`lemma_vmdk_outcome`, applied to a prefix of the stream): a well-formed image is in sparse-header
mode (`wellformed_vmdk_sparse`), so for well-formed images the statements are full.
-/
import OsloProofs.Props.C01Vmdk
import OsloProofs.Props.C07
namespace Oslo.Insp

/-- length of the descriptor region the header announces (capped at `DESC_MAX_SIZE`) -/
def vmdkDescLen (s : Bytes) : Nat := min ((hdrOf s).descNum * 512) Gen.vmdkDescMaxSize

/-- **a well-formed sparse VMDK stream declaring `n` capacity sectors**: the 64-byte `KDMV` header with a
    supported version and the capacity field `n`; the embedded descriptor at sector 1, completely
    present, decodable, with createType monolithicSparse or streamOptimized (compared lower-cased, as
    the inspector does); and, if the header announces a footer, room for the 1536 footer bytes
    after the descriptor -/
structure WellFormedVmdk (n : Nat) (s : Bytes) : Prop where
  len : 64 ≤ s.length
  sig : s.take 4 = kdmv
  ver : (hdrOf s).ver = 1 ∨ (hdrOf s).ver = 2 ∨ (hdrOf s).ver = 3
  range : n < 2 ^ 64
  size : slice s 12 20 = encodeLE 8 n
  descSec : (hdrOf s).descSec * 512 = Gen.vmdkDescOffset
  descFull : 512 + vmdkDescLen s ≤ s.length
  createType : ∃ t ty, parseDesc (sliceOf s 512 (vmdkDescLen s)) = some (t, ty) ∧ ty ∈ sparseTypes
  footer : (hdrOf s).gdOffset = Gen.vmdkGdAtEnd → 512 + vmdkDescLen s + 1536 ≤ s.length

/-- **wellformed_vmdk_sparse** — a well-formed image satisfies the hypothesis of C01-7 -/
theorem wellformed_vmdk_sparse (n : Nat) (s : Bytes) (h : WellFormedVmdk n s) : VmdkSparse s :=
  ⟨h.len, h.sig, h.ver, fun hg => Or.inr (by have := h.footer hg; omega)⟩

theorem lemma_parseDesc_nonempty (d t ty : Bytes) (h : parseDesc d = some (t, ty)) (hty : ty ∈ sparseTypes) :
    t ≠ [] := by
  intro ht
  unfold parseDesc at h
  split at h
  · simp at h
  · simp only [Option.some.injEq, Prod.mk.injEq] at h
    obtain ⟨h1, h2⟩ := h
    rw [h1, ht, lemma_descType_nil] at h2
    rw [← h2] at hty
    have := List.contains_iff_mem.mpr hty
    rw [lemma_fnf_not_sparse] at this
    cases this

theorem lemma_vsizeOn_sparse (t ty : Bytes) (n : Nat) (ht : t ≠ []) (hty : ty ∈ sparseTypes) :
    vsizeOn (some t) ty n = Int.ofNat (n * 512) := by
  have h1 : t.isEmpty = false := by simpa using ht
  have h2 : sparseTypes.contains ty = true := by simpa using hty
  simp only [vsizeOn, h1, h2, Bool.false_eq_true, if_false, Bool.not_true]

/-- **vsize_vmdk** — for every capacity `n < 2^64`, every well-formed sparse VMDK stream declaring it
    and every chunking of that stream, `virtual_size` after the whole stream is `n × 512` -/
theorem vsize_vmdk (s0 : Insp) (h0 : Insp.init .vmdk = some s0) (chunks : List Bytes) (n : Nat)
    (hw : WellFormedVmdk n chunks.flatten) :
    virtualSize (runChunks s0 chunks).1 = .ok ((n : Int) * 512) := by
  obtain ⟨t, ty, hp, hty⟩ := hw.createType
  have hv := congrArg Verdict.vsize
    (vmdk_chunk_independent_partial s0 h0 chunks (wellformed_vmdk_sparse n _ hw))
  rw [lemma_specVmdk_parsed _ _ t ty rfl hw.descSec hw.descFull hp] at hv
  have hsec : (hdrOf chunks.flatten).sectors = n :=
    (congrArg leNat hw.size).trans (le_encode 8 n (by simpa using hw.range))
  rw [show virtualSize (runChunks s0 chunks).1 = _ from hv, hsec,
    lemma_vsizeOn_sparse t ty n (lemma_parseDesc_nonempty _ t ty hp hty) hty]
  rfl


theorem lemma_hdrOf_append (q t : Bytes) (h : 64 ≤ q.length) : hdrOf (q ++ t) = hdrOf q := by
  have e : ∀ a b, b ≤ 64 → slice (q ++ t) a b = slice q a b := by
    intro a b hb
    simp only [slice]
    rw [List.take_append_of_le_length (by omega)]
  unfold hdrOf
  rw [e 4 8 (by omega), e 12 20 (by omega), e 28 36 (by omega), e 36 44 (by omega), e 56 64 (by omega),
    List.take_append_of_le_length (by omega)]

theorem lemma_vsize_zero_vmdk_sparse (s0 : Insp) (h0 : Insp.init .vmdk = some s0) (chunks : List Bytes)
    (s : Bytes) (hs : VmdkSparse s) (hpre : chunks.flatten <+: s)
    (hshort : chunks.flatten.length < 512 + vmdkDescLen s) :
    virtualSize (feed s0 chunks).1 = .ok 0 := by
  obtain ⟨hlen, hsig, hver, _⟩ := hs
  have h5s : NulAt5 s := lemma_nulAt5_of_ver s hlen (by
    have : (hdrOf s).ver = leNat (slice s 4 8) := rfl
    rw [← this]; omega)
  have h5 : NulAt5 chunks.flatten := lemma_nulAt5_prefix hpre h5s
  by_cases hq : chunks.flatten.length < 64
  · obtain ⟨n, hd, d0, dt, hf⟩ := lemma_vmdk_feed_short s0 h0 chunks h5 hq
    rw [hf]
    exact lemma_vmdk_vsize_fnf _ rfl rfl
  · have hq64 : 64 ≤ chunks.flatten.length := by omega
    obtain ⟨t, ht⟩ := hpre
    have hH : hdrOf s = hdrOf chunks.flatten := by rw [← ht, lemma_hdrOf_append _ _ hq64]
    have hout := lemma_vmdk_outcome s0 h0 chunks hq64 (hH ▸ ⟨hsig, hver⟩)
    unfold vmdkDescLen at hshort
    rw [hH] at hshort
    generalize chunks.flatten = q at *
    generalize hdrOf q = H at *
    rcases hout with ⟨hds, hd, fo, fd, dt, vt, hr, hp, hl, hfi, hst⟩ | ⟨hds, n, hd, d0, dt, hr, hp, hl, hc⟩
    · rw [hr, lemma_post_vsize hp]
      have hvt : vt = formatNotFound := by
        unfold DescSt at hst
        split at hst
        · rename_i hc
          rw [lemma_sliceOf_length] at hc
          have hq512 : q.length < 512 := by omega
          have hnil : sliceOf q 512 (min (H.descNum * 512) Gen.vmdkDescMaxSize) = [] :=
            lemma_sliceOf_nil q 512 _ (by omega)
          rw [hnil, lemma_parseDesc_nil] at hst
          exact hst.2
        · exact hst
      rw [hvt, lemma_vsizeOn_fnf]
    · rw [hr]
      exact lemma_err_vsize

/-- **vsize_zero_until_captured_vmdk** — while a well-formed sparse VMDK is being streamed (any
    chunking, any prefix that ends before the end of the descriptor), `virtual_size` is 0 -/
theorem vsize_zero_until_captured_vmdk (s0 : Insp) (h0 : Insp.init .vmdk = some s0) (chunks : List Bytes)
    (n : Nat) (s : Bytes) (hw : WellFormedVmdk n s) (hpre : chunks.flatten <+: s)
    (hshort : chunks.flatten.length < 512 + vmdkDescLen s) :
    virtualSize (feed s0 chunks).1 = .ok 0 :=
  lemma_vsize_zero_vmdk_sparse s0 h0 chunks s (wellformed_vmdk_sparse n s hw) hpre hshort

/-! ### non-vacuity: the concrete image of C01Vmdk is well-formed with 2048 sectors -/

theorem lemma_exVmdk_descLen : vmdkDescLen exVmdk = 512 := by
  rw [vmdkDescLen, lemma_exVmdk_hdr]; decide

theorem lemma_exVmdk_wellformed : WellFormedVmdk 2048 exVmdk :=
  ⟨by rw [lemma_exVmdk_length]; decide, lemma_exVmdk_sparse.2.1, lemma_exVmdk_sparse.2.2.1, by decide,
   by decide +kernel, by rw [lemma_exVmdk_hdr]; rfl,
   by rw [lemma_exVmdk_descLen, lemma_exVmdk_length]; decide,
   ⟨_, _, by rw [lemma_exVmdk_descLen]; exact lemma_exVmdk_parse, List.mem_cons_self⟩,
   fun h => absurd h (by rw [lemma_exVmdk_hdr]; decide)⟩

example : WellFormedVmdk 2048 exVmdk := lemma_exVmdk_wellformed

example (s0 : Insp) (h0 : Insp.init .vmdk = some s0) :
    virtualSize (runChunks s0 [exVmdk.take 7, exVmdk.drop 7]).1 = .ok (2048 * 512) ∧
    virtualSize (feed s0 [exVmdk.take 7, (exVmdk.drop 7).take 1000]).1 = .ok 0 := by
  have e : [exVmdk.take 7, exVmdk.drop 7].flatten = exVmdk := by simp
  have e' : [exVmdk.take 7, (exVmdk.drop 7).take 1000].flatten = exVmdk.take (7 + 1000) := by
    simp only [List.flatten_cons, List.flatten_nil, List.append_nil, List.take_add]
  refine ⟨vsize_vmdk s0 h0 _ 2048 (by rw [e]; exact lemma_exVmdk_wellformed), ?_⟩
  apply vsize_zero_until_captured_vmdk s0 h0 _ 2048 exVmdk lemma_exVmdk_wellformed
  · rw [e']
    exact List.take_prefix _ _
  · rw [e', List.length_take, lemma_exVmdk_length, lemma_exVmdk_descLen]
    decide

end Oslo.Insp
