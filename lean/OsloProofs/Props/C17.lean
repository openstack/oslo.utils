/-
C17 — version helpers preserve ordering and PEP 440 semantics (oslo_utils/versionutils.py).

Property theorems only; helper lemmas are `lemma_…` (here when they mention the specification
vocabulary below, otherwise in `OsloProofs/Lemmas/C17.lean`).  Every theorem quantifies over all
component lists / all strings / every instance `P : Pep V` of the abstract `packaging.version`
interface.  Theorems about the operator table and the clause grammar are stated over the tables in
`Generated/C17.lean`, which are re-read from the code on every run.
-/
import OsloProofs.Lemmas.C17
namespace Oslo.Version

/-- the dotted version of a component list: `'.'.join(map(str, l))` -/
def render (l : List Nat) : List Char := join '.' (l.map natRepr)

/-- "components lie in 0..999 (first non-zero)" -/
def Canonical (l : List Nat) : Prop := l ≠ [] ∧ l.head? ≠ some 0 ∧ ∀ c ∈ l, c < 1000

instance (l : List Nat) : Decidable (Canonical l) := by unfold Canonical; exact inferInstance

/-- `convert_version_to_str` applied to what `convert_version_to_int` returned -/
def strOfInt : Except Err IntOut → Option (List Char)
  | .ok (.int v) => toStrInt v
  | _ => none

/-- Python's `<` on tuples of ints -/
def tupleLt : List Int → List Int → Bool
  | [], [] => false
  | [], _ :: _ => true
  | _ :: _, [] => false
  | a :: as, b :: bs => if a < b then true else if b < a then false else tupleLt as bs

def InRange (l : List Int) : Prop := ∀ c ∈ l, 0 ≤ c ∧ c ≤ 999

instance (l : List Int) : Decidable (InRange l) := by unfold InRange; exact inferInstance

/-- the shape `\s*[^\s]+\s*` -/
def RestShape (r ver : List Char) : Prop :=
  ∃ mid post, r = mid ++ ver ++ post ∧ (∀ c ∈ mid, isReSpace c = true) ∧ ver ≠ [] ∧
    (∀ c ∈ ver, isReSpace c = false) ∧ (∀ c ∈ post, isReSpace c = true)

theorem lemma_matchRest_of_shape (r ver : List Char) (h : RestShape r ver) : matchRest r = some ver := by
  obtain ⟨mid, post, rfl, hmid, hne, hver, hpost⟩ := h
  obtain ⟨v, vs, rfl⟩ : ∃ v vs, ver = v :: vs := by
    cases ver with
    | nil => exact absurd rfl hne
    | cons v vs => exact ⟨v, vs, rfl⟩
  have h1 := lemma_takeWhile_run isReSpace mid ((v :: vs) ++ post) hmid
    (by intro c hc; simp at hc; subst hc; exact hver _ (by simp))
  have h2 := lemma_takeWhile_run (fun c => !isReSpace c) (v :: vs) post
    (by intro c hc; simp [hver c hc])
    (by intro c hc; cases post with
        | nil => simp at hc
        | cons x t => simp at hc; subst hc; simpa using hpost _ (List.mem_cons_self ..))
  unfold matchRest
  simp only [List.append_assoc] at h1 ⊢
  rw [h1.2, h2.1, h2.2]
  have : post.all isReSpace = true := by simpa using hpost
  simp [this]

theorem lemma_shape_of_matchRest (r ver : List Char) (h : matchRest r = some ver) : RestShape r ver := by
  unfold matchRest at h
  simp only at h
  split at h
  · rename_i hc
    simp only [Option.some.injEq] at h
    subst h
    simp only [Bool.and_eq_true, Bool.not_eq_true', List.all_eq_true] at hc
    refine ⟨r.takeWhile isReSpace, (r.dropWhile isReSpace).dropWhile (fun c => !isReSpace c), ?_, ?_, ?_, ?_, ?_⟩
    · rw [List.append_assoc, List.takeWhile_append_dropWhile, List.takeWhile_append_dropWhile]
    · intro c hc'; exact lemma_mem_takeWhile _ _ _ hc'
    · intro e; simp [e] at hc
    · intro c hc'; have := lemma_mem_takeWhile _ _ _ hc'; simpa using this
    · exact hc.2
  · cases h

/-- a piece the pattern `^\s*(<=|>=|<|>|!=|==)\s*([^\s]+)\s*$` can match, written as a grammar -/
def WellFormedPiece (p : List Char) : Prop :=
  ∃ pre op r ver, p = pre ++ op ++ r ∧ (∀ c ∈ pre, isReSpace c = true) ∧ op ∈ opAlternatives ∧ RestShape r ver

/-- what each operator text denotes -/
def opDenotes (cond : List Char) : Option Cmp :=
  if cond = ['<'] then some .lt else if cond = ['<', '='] then some .le
  else if cond = ['=', '='] then some .eq else if cond = ['>'] then some .gt
  else if cond = ['>', '='] then some .ge else if cond = ['!', '='] then some .ne else none

/-- one comparison `version <cond> w` -/
def holdsB {V} (P : Pep V) (cond : List Char) (v w : V) : Bool :=
  match opDenotes cond with
  | some op => P.cmp op v w
  | none => false

/-- `pred` is the piece-by-piece parse of `pieces`: one (operator, version) per piece, in order -/
def PiecesParsed {V} (P : Pep V) : List (List Char) → List (List Char × V) → Prop
  | [], [] => True
  | p :: ps, cw :: rest => (∃ ver, matchPiece p = some (cw.1, ver) ∧ P.parse ver = some cw.2) ∧ PiecesParsed P ps rest
  | _, _ => False

/-- the six operators of `P` all derive from one total preorder `le` (packaging: comparison of `_key`) -/
structure Lawful {V} (P : Pep V) (le : V → V → Prop) : Prop where
  total : ∀ a b, le a b ∨ le b a
  trans : ∀ a b c, le a b → le b c → le a c
  le_iff : ∀ a b, P.le a b = true ↔ le a b
  lt_iff : ∀ a b, P.lt a b = true ↔ le a b ∧ ¬ le b a
  eq_iff : ∀ a b, P.eq a b = true ↔ le a b ∧ le b a
  gt_iff : ∀ a b, P.gt a b = true ↔ le b a ∧ ¬ le a b
  ge_iff : ∀ a b, P.ge a b = true ↔ le b a
  ne_iff : ∀ a b, P.ne a b = true ↔ ¬ (le a b ∧ le b a)

/-- a comparison read in the preorder -/
def OrderSem {V} (le : V → V → Prop) : Cmp → V → V → Prop
  | .lt, a, b => le a b ∧ ¬ le b a
  | .le, a, b => le a b
  | .eq, a, b => le a b ∧ le b a
  | .gt, a, b => le b a ∧ ¬ le a b
  | .ge, a, b => le b a
  | .ne, a, b => ¬ (le a b ∧ le b a)

theorem lemma_fold_lt (xs ys : List Int) (p q : Int) (hl : xs.length = ys.length)
    (hx : InRange xs) (hy : InRange ys) (hpq : p < q) :
    xs.foldl (fun a y => a * 1000 + y) p < ys.foldl (fun a y => a * 1000 + y) q := by
  induction xs generalizing ys p q with
  | nil => cases ys with
    | nil => simpa using hpq
    | cons _ _ => simp at hl
  | cons x t ih =>
    cases ys with
    | nil => simp at hl
    | cons y u =>
      simp only [List.foldl_cons]
      have h1 := hx x (by simp); have h2 := hy y (by simp)
      apply ih u _ _ (by simpa using hl) (fun c hc => hx c (by simp [hc])) (fun c hc => hy c (by simp [hc]))
      omega

theorem lemma_fold_order (xs ys : List Int) (p : Int) (hl : xs.length = ys.length)
    (hx : InRange xs) (hy : InRange ys) :
    (xs.foldl (fun a y => a * 1000 + y) p < ys.foldl (fun a y => a * 1000 + y) p ↔ tupleLt xs ys = true) ∧
    (xs.foldl (fun a y => a * 1000 + y) p = ys.foldl (fun a y => a * 1000 + y) p ↔ xs = ys) := by
  induction xs generalizing ys p with
  | nil => cases ys with
    | nil => simp [tupleLt]
    | cons _ _ => simp at hl
  | cons x t ih =>
    cases ys with
    | nil => simp at hl
    | cons y u =>
      have hl' : t.length = u.length := by simpa using hl
      have hx' : InRange t := fun c hc => hx c (by simp [hc])
      have hy' : InRange u := fun c hc => hy c (by simp [hc])
      simp only [List.foldl_cons, tupleLt, List.cons.injEq]
      rcases Int.lt_trichotomy x y with hxy | rfl | hxy
      · have := lemma_fold_lt t u (p * 1000 + x) (p * 1000 + y) hl' hx' hy' (Int.add_lt_add_left hxy _)
        rw [if_pos hxy]
        exact ⟨iff_of_true this rfl, iff_of_false (Int.ne_of_lt this) (fun e => Int.ne_of_lt hxy e.1)⟩
      · rw [if_neg (Int.lt_irrefl x), if_neg (Int.lt_irrefl x), and_iff_right rfl]
        exact ih u (p * 1000 + x) hl' hx' hy'
      · have := lemma_fold_lt u t (p * 1000 + y) (p * 1000 + x) hl'.symm hy' hx' (Int.add_lt_add_left hxy _)
        rw [if_neg (Int.lt_asymm hxy), if_pos hxy]
        exact ⟨iff_of_false (Int.lt_asymm this) Bool.false_ne_true,
          iff_of_false (Int.ne_of_lt this).symm (fun e => Int.ne_of_lt hxy e.1.symm)⟩

theorem lemma_toInt_tuple_fold {a : List Int} {x : Int} (h : toInt (.tuple a) = .ok (.int x)) :
    x = a.foldl (fun p y => p * 1000 + y) 0 := by
  cases a with
  | nil => cases h
  | cons p t => cases h; simp

theorem lemma_stripSuffix_render (l : List Nat) : stripSuffix (render l) = render l := by
  have hch := lemma_render_chars l
  have hnl : (render l).getLast? ≠ some '\n' := by
    intro e
    rcases hch _ (List.mem_of_getLast? e) with h | h
    · simp [lemma_not_digit.2.1] at h
    · cases h
  have hcore := lemma_stripCore_digits_dots (render l) hch
  unfold stripSuffix
  rw [if_neg hnl, hcore]

/-- `convert_version_to_tuple` of a canonical dotted version is its component list -/
theorem version_tuple_canonical (l : List Nat) (hne : l ≠ []) (h : ∀ c ∈ l, c < 1000) :
    toTuple (render l) = .ok (l.map Int.ofNat) := by
  unfold toTuple
  rw [lemma_stripSuffix_render, render, lemma_split_render l hne, lemma_parseParts_canonical l h]

theorem lemma_toInt_render (l : List Nat) (hne : l ≠ []) (h : ∀ c ∈ l, c < 1000) :
    toInt (.str (render l)) = .ok (.int (valueNat l : Nat)) ∧
    toInt (.tuple (l.map Int.ofNat)) = .ok (.int (valueNat l : Nat)) := by
  simp only [toInt, version_tuple_canonical l hne h, tupleToInt, lemma_reduce_cast l hne, and_self]

/-- **Round trip** — for every dotted version whose components lie in 0..999 (first non-zero),
    given as a string or as a tuple, `convert_version_to_str(convert_version_to_int(v))` is the
    dotted string again. -/
theorem version_str_int_roundtrip (l : List Nat) (h : Canonical l) :
    strOfInt (toInt (.str (render l))) = some (render l) ∧
    strOfInt (toInt (.tuple (l.map Int.ofNat))) = some (render l) := by
  obtain ⟨hne, hh, hall⟩ := h
  obtain ⟨h1, h2⟩ := lemma_toInt_render l hne hall
  have hneg : ¬ ((valueNat l : Nat) : Int) < 0 := by omega
  rw [h1, h2]
  simp only [strOfInt, toStrInt, hneg, if_false, Int.toNat_natCast, lemma_toStr_parts,
    lemma_parts_value l hh hall, render, and_self]

/-- **Round trip, converse** — every positive integer is recovered from its dotted string. -/
theorem version_int_str_roundtrip (n : Nat) (hn : 0 < n) :
    toInt (.str (toStr n)) = .ok (.int n) := by
  obtain ⟨h1, h2, h3⟩ := lemma_valueNat_parts n
  rw [lemma_toStr_parts, ← render, (lemma_toInt_render _ (h3 hn) h1).1, h2]

/-- **Order** — for tuples of equal length with components in 0..999 the integers compare
    exactly as the tuples: `<` ⇔ lexicographic `<`, `=` ⇔ `=`. -/
theorem version_int_order (a b : List Int) (x y : Int) (hl : a.length = b.length)
    (ha : InRange a) (hb : InRange b)
    (hx : toInt (.tuple a) = .ok (.int x)) (hy : toInt (.tuple b) = .ok (.int y)) :
    (x < y ↔ tupleLt a b = true) ∧ (x = y ↔ a = b) := by
  rw [lemma_toInt_tuple_fold hx, lemma_toInt_tuple_fold hy]
  exact lemma_fold_order a b 0 hl ha hb

/-- the same through the dotted strings -/
theorem version_int_order_str (a b : List Nat) (hl : a.length = b.length) (hne : a ≠ [])
    (ha : ∀ c ∈ a, c < 1000) (hb : ∀ c ∈ b, c < 1000) :
    ∃ x y, toInt (.str (render a)) = .ok (.int x) ∧ toInt (.str (render b)) = .ok (.int y) ∧
      (x < y ↔ tupleLt (a.map Int.ofNat) (b.map Int.ofNat) = true) ∧ (x = y ↔ a = b) := by
  have hneb : b ≠ [] := by
    intro e; subst e; cases a with
    | nil => exact hne rfl
    | cons _ _ => simp at hl
  have h1 := lemma_toInt_render a hne ha
  have h2 := lemma_toInt_render b hneb hb
  have hr : ∀ l : List Nat, (∀ c ∈ l, c < 1000) → InRange (l.map Int.ofNat) := by
    intro l hl c hc
    simp only [List.mem_map] at hc
    obtain ⟨n, hn, rfl⟩ := hc
    have := hl n hn
    simp only [Int.ofNat_eq_natCast]; omega
  have := version_int_order (a.map Int.ofNat) (b.map Int.ofNat) _ _ (by simpa using hl) (hr a ha) (hr b hb) h1.2 h2.2
  refine ⟨_, _, h1.1, h2.1, this.1, ?_⟩
  rw [this.2]
  exact List.map_inj_right fun _ _ => Int.ofNat_inj.mp

/-- the bound 999 is sharp: with a component 1000 two different tuples collide -/
theorem version_int_order_sharp :
    toInt (.tuple [1, 1000]) = toInt (.tuple [2, 0]) ∧ tupleLt [1, 1000] [2, 0] = true := by decide +kernel

/-- **Suffix ignored** — after a digit, a marker `a|alpha|b|beta|rc` followed by digits (and
    possibly one final newline) is removed by the substitution, whatever precedes; so the
    tuple is that of the text without the suffix. -/
theorem version_suffix_ignored (s m d : List Char) (c : Char) (hs : s.getLast? = some c)
    (hc : isDigit c = true) (hm : m ∈ markers) (hd : d ≠ []) (hdd : ∀ x ∈ d, isDigit x = true) :
    stripSuffix (s ++ m ++ d) = s ∧ stripSuffix (s ++ m ++ d ++ ['\n']) = s ++ ['\n'] ∧
    toTuple (s ++ m ++ d) =
      (match parseParts (splitOn '.' s) with | some l => .ok l | none => .error .valueError) := by
  have hcore := lemma_stripCore_suffix s m d c hs hc hm hd hdd
  obtain ⟨d', e, hde, hlast⟩ := lemma_last_of_append (s ++ m) d hd
  have he : isDigit e = true := hdd e (by simp [hde])
  have hne : (s ++ m ++ d).getLast? ≠ some '\n' := by
    rw [hlast]; intro h; simp only [Option.some.injEq] at h; subst h
    simp [lemma_not_digit.2.1] at he
  have h1 : stripSuffix (s ++ m ++ d) = s := by
    unfold stripSuffix; rw [if_neg hne, hcore]
  refine ⟨h1, ?_, ?_⟩
  · unfold stripSuffix
    have : (s ++ m ++ d ++ ['\n']).getLast? = some '\n' := by simp
    rw [if_pos this, List.dropLast_concat, hcore]
  · simp only [toTuple, h1]; rfl

theorem lemma_render_last (l : List Nat) (hne : l ≠ []) : ∃ c, (render l).getLast? = some c ∧ isDigit c = true := by
  apply lemma_join_last (fun c => isDigit c = true) '.' (l.map natRepr) (by simpa using hne)
  intro p hp
  simp only [List.mem_map] at hp
  obtain ⟨n, _, rfl⟩ := hp
  obtain ⟨d', e, hde, hl⟩ := lemma_last_of_append [] (natRepr n) (lemma_natRepr_ne_nil n)
  simp only [List.nil_append] at hl
  exact ⟨e, hl, lemma_natRepr_isDigit n e (List.mem_of_getLast? hl)⟩

/-- **Suffix ignored**, on canonical versions: `1.2.3rc1` converts like `1.2.3`. -/
theorem version_suffix_ignored_canonical (l : List Nat) (m d : List Char) (hne : l ≠ [])
    (hall : ∀ c ∈ l, c < 1000) (hm : m ∈ markers) (hd : d ≠ []) (hdd : ∀ x ∈ d, isDigit x = true) :
    toTuple (render l ++ m ++ d) = .ok (l.map Int.ofNat) ∧
    toInt (.str (render l ++ m ++ d)) = toInt (.str (render l)) := by
  obtain ⟨c, hlast, hc⟩ := lemma_render_last l hne
  have h := version_suffix_ignored (render l) m d c hlast hc hm hd hdd
  have ht : toTuple (render l ++ m ++ d) = .ok (l.map Int.ofNat) := by
    rw [h.2.2, render, lemma_split_render l hne, lemma_parseParts_canonical l hall]
  refine ⟨ht, ?_⟩
  simp only [toInt, ht, version_tuple_canonical l hne hall]

/-- **Non-numeric component** — if, after the suffix substitution, some dot-separated component
    contains a character that is not a decimal digit, not `int()` whitespace, not a sign and not
    an underscore (or the component is empty), both converters raise ValueError. -/
theorem version_nonnumeric_valueerror (s p : List Char) (hp : p ∈ splitOn '.' (stripSuffix s))
    (hbad : p = [] ∨ ∃ c ∈ p, isDigit c = false ∧ isIntSpace c = false ∧ c ≠ '+' ∧ c ≠ '-' ∧ c ≠ '_') :
    toTuple s = .error .valueError ∧ toInt (.str s) = .error .valueError := by
  have hnone : pyInt p = none := by
    rcases hbad with rfl | ⟨c, hc, h1, h2, h3, h4, h5⟩
    · exact lemma_pyInt_empty
    · exact lemma_pyInt_nonnumeric p c hc h1 h2 h3 h4 h5
  have : toTuple s = .error .valueError := by
    unfold toTuple; rw [(lemma_parseParts_eq_none _).mpr ⟨p, hp, hnone⟩]
  exact ⟨this, by simp [toInt, this]⟩

/-- `convert_version_to_tuple` succeeds exactly when `int()` accepts every component; its only
    failure is ValueError, and so is `convert_version_to_int`'s on a string. -/
theorem version_str_errors (s : List Char) :
    ((∃ l, toTuple s = .ok l) ↔ ∀ p ∈ splitOn '.' (stripSuffix s), pyInt p ≠ none) ∧
    (∀ e, toTuple s = .error e → e = .valueError) ∧
    (∀ e, toInt (.str s) = .error e → e = .valueError) := by
  cases hp : parseParts (splitOn '.' (stripSuffix s)) with
  | none =>
    have ht : toTuple s = .error .valueError := by rw [toTuple, hp]
    obtain ⟨p, hp1, hp2⟩ := (lemma_parseParts_eq_none _).mp hp
    simp only [toInt, ht, Except.error.injEq, reduceCtorEq, exists_false, false_iff]
    exact ⟨fun h => h p hp1 hp2, fun _ => Eq.symm, fun _ => Eq.symm⟩
  | some l =>
    have ht : toTuple s = .ok l := by rw [toTuple, hp]
    refine ⟨⟨fun _ p hp1 hp2 => ?_, fun _ => ⟨l, ht⟩⟩, fun e he => (by rw [ht] at he; cases he), fun e he => ?_⟩
    · have := (lemma_parseParts_eq_none _).mpr ⟨p, hp1, hp2⟩
      rw [hp] at this; cases this
    · -- the tuple of a string is never empty, so `reduce` cannot fail
      cases l with
      | nil =>
        exact absurd (List.length_eq_zero_iff.mp (lemma_parseParts_length hp).symm)
          (lemma_splitOn_ne_nil '.' (stripSuffix s))
      | cons _ _ => simp [toInt, ht, tupleToInt, reduce1000] at he

/-- **Bare marker** — a marker `a|alpha|b|beta|rc` with no number after it is not a suffix: a
    version text that ends in one (whatever precedes) is left alone by the substitution and both
    converters raise ValueError. -/
theorem version_bare_marker_valueerror (p m : List Char) (hm : m ∈ markers) :
    stripSuffix (p ++ m) = p ++ m ∧
    toTuple (p ++ m) = .error .valueError ∧ toInt (.str (p ++ m)) = .error .valueError := by
  obtain ⟨hne, hch⟩ := lemma_marker_chars m hm
  obtain ⟨m', c, rfl, hlast⟩ := lemma_last_of_append p m hne
  obtain ⟨h1, h2, h3, h4, h5, h6, h7⟩ := hch c (by simp)
  have hs : stripSuffix (p ++ (m' ++ [c])) = p ++ (m' ++ [c]) := by
    unfold stripSuffix
    have hnl : (p ++ (m' ++ [c])).getLast? ≠ some '\n' := by
      rw [hlast]; intro e; exact h7 (Option.some.inj e)
    rw [if_neg hnl]
    have : stripCore (p ++ (m' ++ [c])) = none := by
      unfold stripCore
      have hr : (p ++ (m' ++ [c])).reverse = c :: (m'.reverse ++ p.reverse) := by simp
      simp [hr, h1]
    rw [this]
  refine ⟨hs, ?_⟩
  obtain ⟨part, hpart, hcp⟩ := lemma_mem_splitOn '.' c (p ++ (m' ++ [c])) (by simp) h6
  exact version_nonnumeric_valueerror _ part (by rw [hs]; exact hpart) (Or.inr ⟨c, hcp, h1, h2, h3, h4, h5⟩)

example : toTuple ['1', '.', '3', 'r', 'c'] = .error .valueError ∧
    toTuple ['1', '0', '.', '0', '.', '3', 'b', 'e', 't', 'a'] = .error .valueError ∧
    toTuple ['1', '.', '3', 'r', 'c', '0'] = .ok [1, 3] := by decide +kernel

/-- **Compatibility** — with both strings valid, `is_compatible` is `current >= requested`
    and, if `same_major`, equal major numbers; with an invalid string it raises InvalidVersion
    (a ValueError). -/
theorem compatible_iff {V} (P : Pep V) (req cur : List Char) (sm : Bool) :
    (∀ r c, P.parse req = some r → P.parse cur = some c →
      isCompatible P req cur sm = .ok (P.ge c r && (!sm || P.major r == P.major c))) ∧
    (P.parse req = none ∨ P.parse cur = none → isCompatible P req cur sm = .error .invalidVersion) := by
  constructor
  · intro r c hr hc
    cases sm <;> by_cases hmaj : P.major r = P.major c <;>
      simp [isCompatible, Pep.version, hr, hc, hmaj]
  · intro h
    cases hr : P.parse req <;> cases hc : P.parse cur <;>
      simp_all [isCompatible, Pep.version]

/-- the same read in the total preorder the operators derive from -/
theorem compatible_iff_order {V} (P : Pep V) (le : V → V → Prop) (hP : Lawful P le)
    (req cur : List Char) (sm : Bool) (r c : V) (hr : P.parse req = some r) (hc : P.parse cur = some c) :
    ∃ b, isCompatible P req cur sm = .ok b ∧
      (b = true ↔ le r c ∧ (sm = true → P.major r = P.major c)) := by
  refine ⟨_, (compatible_iff P req cur sm).1 r c hr hc, ?_⟩
  have := hP.ge_iff c r
  cases sm <;> simp [this]

/-- **Operator table** (over the table generated from `_COMP_MAP`): every operator text the
    pattern can capture is present and maps to the operator it denotes. -/
theorem comp_map_faithful : ∀ op ∈ opAlternatives, lookupCmp op = opDenotes op ∧ (opDenotes op).isSome = true := by
  decide +kernel

/-- **Clause grammar** (over the probes generated from the running code through the public API):
    on every probed clause text the constructor succeeds exactly when the model's matcher reads the
    text as an operator followed by the bound `1.5`. -/
theorem predicate_probes_are_modelled :
    ∀ pa ∈ Gen.clauseProbes,
      pa.2 = (match matchPiece pa.1 with
              | some (_, ver) => decide (ver = ['1', '.', '5'])
              | none => false) := by
  decide +kernel

/-- **Predicate grammar** — the matcher accepts exactly the pieces of the grammar
    `ws* op ws* nonws+ ws*`, and what it returns is an operator of the alternation and a
    non-empty whitespace-free version text that decompose the piece. -/
theorem predicate_piece_grammar (p : List Char) :
    ((matchPiece p).isSome = true ↔ WellFormedPiece p) ∧
    (∀ op ver, matchPiece p = some (op, ver) →
      op ∈ opAlternatives ∧ ∃ r, p = p.takeWhile isReSpace ++ op ++ r ∧ RestShape r ver) := by
  have hsound : ∀ op ver, matchPiece p = some (op, ver) →
      op ∈ opAlternatives ∧ ∃ r, p = p.takeWhile isReSpace ++ op ++ r ∧ RestShape r ver := by
    intro op ver h
    obtain ⟨h1, r, h2, h3⟩ := lemma_firstAlt_sound _ _ _ _ h
    refine ⟨h1, r, ?_, lemma_shape_of_matchRest r ver h3⟩
    rw [List.append_assoc, ← h2, List.takeWhile_append_dropWhile]
  refine ⟨⟨?_, ?_⟩, hsound⟩
  · intro h
    obtain ⟨⟨op, ver⟩, hov⟩ := Option.isSome_iff_exists.mp h
    obtain ⟨h1, r, h2, h3⟩ := hsound op ver hov
    exact ⟨_, op, r, ver, h2, fun c hc => lemma_mem_takeWhile _ _ _ hc, h1, h3⟩
  · rintro ⟨pre, op, r, ver, rfl, hpre, hop, hshape⟩
    rw [matchPiece, lemma_dropWhile_pre pre op r hpre hop]
    exact lemma_firstAlt_complete _ _ _ _ hop (lemma_matchRest_of_shape r ver hshape)

/-- Only `<` and `>` are prefixes of an earlier alternative (`<=`, `>=`), so only after them does a
    following `=` change which alternative matches. -/
theorem lemma_piece_exact (pre op r ver : List Char) (hpre : ∀ c ∈ pre, isReSpace c = true)
    (hop : op ∈ opAlternatives) (hshape : RestShape r ver)
    (hamb : op = ['<'] ∨ op = ['>'] → r.head? ≠ some '=') :
    matchPiece (pre ++ op ++ r) = some (op, ver) := by
  have hm := lemma_matchRest_of_shape r ver hshape
  rw [matchPiece, lemma_dropWhile_pre pre op r hpre hop]
  cases r with
  | nil => simp [matchRest] at hm
  | cons x r' =>
    have hx : op = ['<'] ∨ op = ['>'] → ¬ '=' = x := fun h e => hamb h (e ▸ rfl)
    simp only [opAlternatives, List.mem_cons, List.mem_nil_iff, or_false] at hop
    rcases hop with rfl | rfl | rfl | rfl | rfl | rfl
    all_goals simp [firstAlt, opAlternatives, stripPrefix, hm, hx]

/-- **Predicate grammar, exactness** — a well-formed piece is read as the operator and version it
    was written with (the only ambiguity of the alternation, `<`/`>` directly followed by `=`,
    excluded). -/
theorem predicate_piece_exact (pre op r ver : List Char) (hpre : ∀ c ∈ pre, isReSpace c = true)
    (hop : op ∈ opAlternatives) (hshape : RestShape r ver) (hamb : r.head? ≠ some '=') :
    matchPiece (pre ++ op ++ r) = some (op, ver) :=
  lemma_piece_exact pre op r ver hpre hop hshape fun _ => hamb

theorem lemma_parsePieces_iff {V} (P : Pep V) (ps : List (List Char)) (pred : List (List Char × V)) :
    parsePieces P ps = .ok pred ↔ PiecesParsed P ps pred := by
  induction ps generalizing pred with
  | nil => cases pred <;> simp [parsePieces, PiecesParsed]
  | cons p t ih =>
    cases pred with
    | nil =>
      simp only [parsePieces, PiecesParsed, iff_false]
      intro h
      split at h
      · cases h
      · split at h <;> cases h
    | cons cw rest =>
      obtain ⟨c, w⟩ := cw
      simp only [parsePieces, PiecesParsed, parsePiece, Pep.version]
      constructor
      · intro h
        cases hm : matchPiece p with
        | none => simp [hm] at h
        | some cv =>
          obtain ⟨c', ver⟩ := cv
          cases hv : P.parse ver with
          | none => simp [hm, hv] at h
          | some w' =>
            simp only [hm, hv] at h
            cases ht : parsePieces P t with
            | error e => simp [ht] at h
            | ok xs =>
              simp only [ht, Except.ok.injEq, List.cons.injEq, Prod.mk.injEq] at h
              obtain ⟨⟨rfl, rfl⟩, rfl⟩ := h
              exact ⟨⟨ver, rfl, hv⟩, (ih xs).mp ht⟩
      · rintro ⟨⟨ver, hm, hv⟩, hrest⟩
        simp [hm, hv, (ih rest).mpr hrest]

/-- **Predicate parse** — `VersionPredicate(s)` succeeds exactly when every comma-separated piece
    matches the pattern and carries a valid version; `self.pred` then holds one
    (operator, version) per piece, in order. -/
theorem predicate_parse_iff {V} (P : Pep V) (s : List Char) (pred : List (List Char × V)) :
    mkPredicate P s = .ok pred ↔ PiecesParsed P (splitOn ',' s) pred :=
  lemma_parsePieces_iff P _ pred

theorem lemma_parsed_pieces {V} (P : Pep V) (ps : List (List Char)) (pred : List (List Char × V))
    (h : PiecesParsed P ps pred) :
    (∀ cw ∈ pred, cw.1 ∈ opAlternatives) ∧
    ∀ p ∈ ps, ∃ c ver w, matchPiece p = some (c, ver) ∧ P.parse ver = some w := by
  induction ps generalizing pred with
  | nil => cases pred <;> simp_all [PiecesParsed]
  | cons p t ih =>
    cases pred with
    | nil => simp [PiecesParsed] at h
    | cons cw rest =>
      obtain ⟨⟨ver, hm, hv⟩, hrest⟩ := h
      obtain ⟨i1, i2⟩ := ih rest hrest
      exact ⟨List.forall_mem_cons.mpr ⟨(lemma_firstAlt_sound _ _ _ _ hm).1, i1⟩,
        List.forall_mem_cons.mpr ⟨⟨_, ver, _, hm, hv⟩, i2⟩⟩

theorem lemma_satLoop {V} (P : Pep V) (v : V) (pred : List (List Char × V))
    (h : ∀ cw ∈ pred, cw.1 ∈ opAlternatives) :
    satLoop P v pred = .ok (pred.all (fun cw => holdsB P cw.1 v cw.2)) := by
  induction pred with
  | nil => rfl
  | cons cw rest ih =>
    obtain ⟨c, w⟩ := cw
    have hc := comp_map_faithful c (h (c, w) (by simp))
    obtain ⟨op, hop⟩ := Option.isSome_iff_exists.mp hc.2
    have ih' := ih (fun x hx => h x (by simp [hx]))
    simp only [satLoop, hc.1, hop, List.all_cons, holdsB, ih']
    cases P.cmp op v w <;> simp

/-- **Predicate** — for a predicate that parsed and a valid candidate, `satisfied_by` is the
    conjunction of all the comparisons `candidate <op> version`, each operator text meaning
    what it says. -/
theorem predicate_iff {V} (P : Pep V) (s vs : List Char) (pred : List (List Char × V)) (v : V)
    (hp : mkPredicate P s = .ok pred) (hv : P.parse vs = some v) :
    satisfiedBy P pred vs = .ok (pred.all (fun cw => holdsB P cw.1 v cw.2)) := by
  have h := (lemma_parsed_pieces P _ pred ((predicate_parse_iff P s pred).mp hp)).1
  simp [satisfiedBy, Pep.version, hv, lemma_satLoop P v pred h]

theorem lemma_cmp_order {V} {P : Pep V} {le : V → V → Prop} (hP : Lawful P le) (op : Cmp) (a b : V) :
    P.cmp op a b = true ↔ OrderSem le op a b := by
  cases op
  · exact hP.lt_iff a b
  · exact hP.le_iff a b
  · exact hP.eq_iff a b
  · exact hP.gt_iff a b
  · exact hP.ge_iff a b
  · exact hP.ne_iff a b

/-- the same read in the total preorder: true iff every comparison holds in the order -/
theorem predicate_iff_order {V} (P : Pep V) (le : V → V → Prop) (hP : Lawful P le)
    (s vs : List Char) (pred : List (List Char × V)) (v : V)
    (hp : mkPredicate P s = .ok pred) (hv : P.parse vs = some v) :
    ∃ b, satisfiedBy P pred vs = .ok b ∧
      (b = true ↔ ∀ cw ∈ pred, ∃ op, opDenotes cw.1 = some op ∧ OrderSem le op v cw.2) := by
  refine ⟨_, predicate_iff P s vs pred v hp hv, ?_⟩
  have hconds := (lemma_parsed_pieces P _ pred ((predicate_parse_iff P s pred).mp hp)).1
  rw [List.all_eq_true]
  refine forall_congr' fun cw => forall_congr' fun hcw => ?_
  obtain ⟨op, hop⟩ := Option.isSome_iff_exists.mp (comp_map_faithful cw.1 (hconds cw hcw)).2
  simp only [holdsB, hop, Option.some.injEq, exists_eq_left', lemma_cmp_order hP]

theorem lemma_parsePiece_error {V} (P : Pep V) (p : List Char) (e : Err) (h : parsePiece P p = .error e) :
    e = .valueError ∨ e = .invalidVersion := by
  revert h
  fun_cases parsePiece P p <;> intro h <;> cases h
  · exact Or.inl rfl
  · rename_i hv
    revert hv
    fun_cases Pep.version P _ <;> intro hv <;> cases hv
    exact Or.inr rfl

theorem lemma_parsePieces_error {V} (P : Pep V) (ps : List (List Char)) (e : Err)
    (h : parsePieces P ps = .error e) : e = .valueError ∨ e = .invalidVersion := by
  revert h
  fun_induction parsePieces P ps with
  | case1 => intro h; cases h
  | case2 p ps e' he' => intro h; cases h; exact lemma_parsePiece_error P p _ he'
  | case3 p ps x hx e' he' ih => intro h; cases h; exact ih he'
  | case4 => intro h; cases h

/-- **Malformed predicate** — if some comma-separated piece is outside the grammar, or is inside it
    but its version text is invalid, the constructor raises ValueError (the module's own, or
    InvalidVersion, a ValueError subclass); it never raises anything else; and an invalid
    candidate makes `satisfied_by` raise InvalidVersion. -/
theorem predicate_malformed_valueerror {V} (P : Pep V) (s : List Char) :
    ((∃ p ∈ splitOn ',' s, ¬ WellFormedPiece p ∨ ∀ c ver, matchPiece p = some (c, ver) → P.parse ver = none) →
      mkPredicate P s = .error .valueError ∨ mkPredicate P s = .error .invalidVersion) ∧
    (∀ e, mkPredicate P s = .error e → e = .valueError ∨ e = .invalidVersion) ∧
    (∀ pred vs, P.parse vs = none → satisfiedBy P pred vs = .error .invalidVersion) := by
  have hkinds := lemma_parsePieces_error P
  refine ⟨?_, fun e h => hkinds _ e h, ?_⟩
  · rintro ⟨p, hp, hbad⟩
    cases hres : mkPredicate P s with
    | error e => rcases hkinds _ e hres with rfl | rfl <;> simp
    | ok pred =>
      exfalso
      obtain ⟨c, ver, w, hm, hv⟩ :=
        (lemma_parsed_pieces P _ pred ((predicate_parse_iff P s pred).mp hres)).2 p hp
      rcases hbad with h | h
      · exact h ((predicate_piece_grammar p).1.mp (by simp [hm]))
      · rw [h c ver hm] at hv; cases hv
  · intro pred vs h
    simp [satisfiedBy, Pep.version, h]

/-- **History independence** — one predicate object asked any sequence of candidates (repeats,
    alternations, invalid candidates in between) answers each call exactly as a single call with
    that candidate would: the k-th answer depends on the k-th candidate only. -/
theorem predicate_history_independent {V} (P : Pep V) (pred : List (List Char × V))
    (vs : List (List Char)) :
    satRun P pred vs = vs.map (satisfiedBy P pred) ∧
    ∀ k : Nat, (satRun P pred vs)[k]? = (vs[k]?).map (satisfiedBy P pred) := by
  have h : satRun P pred vs = vs.map (satisfiedBy P pred) := by
    induction vs with
    | nil => rfl
    | cons v t ih => simp [satRun, ih]
  exact ⟨h, fun k => by rw [h, List.getElem?_map]⟩

/-! ### non-vacuity -/

example : Canonical [1, 0, 999] ∧ Canonical [999] ∧ ¬ Canonical [0, 1] ∧ ¬ Canonical [1, 1000] := by
  decide +kernel

example : toInt (.str ['1', '.', '0', '.', '9', '9', '9']) = .ok (.int 1000999) ∧
    toTuple ['1', '.', '0', '2', 'r', 'c', '1', '\n'] = .ok [1, 2] ∧
    toTuple ['1', '.', '2', 'r', 'c', '1', '\n', '\n'] = .error .valueError ∧
    toTuple ['1', '.', '.', '2'] = .error .valueError ∧
    toTuple ['1', 'a', '2', 'b', '3'] = .error .valueError ∧
    toInt (.tuple []) = .error .typeError ∧ toInt .other = .ok .noneVal := by decide +kernel

example : render [1, 0, 999] = ['1', '.', '0', '.', '9', '9', '9'] ∧
    toStrInt 1000999 = some ['1', '.', '0', '.', '9', '9', '9'] ∧ toStrInt (-1) = none := by
  simp [render, natRepr, join, digitChar, toStrInt, toStr, strLoop]

example : InRange [1, 999] ∧ InRange [2, 0] ∧ tupleLt [1, 999] [2, 0] = true ∧
    toInt (.tuple [1, 999]) = .ok (.int 1999) ∧ toInt (.tuple [2, 0]) = .ok (.int 2000) := by decide +kernel

example : ['r', 'c'] ∈ markers ∧ isDigit '2' = true ∧ isDigit '٣' = true := by decide +kernel

example : ['x'] ∈ splitOn '.' (stripSuffix ['1', '.', 'x']) ∧ isDigit 'x' = false ∧ isIntSpace 'x' = false := by decide +kernel

/-- a concrete lawful instance: a version is its rank in the order, a natural number -/
def natPep (dict : List Char → Option Nat) : Pep Nat where
  parse := dict
  major v := v
  lt a b := a < b
  le a b := a ≤ b
  eq a b := a == b
  gt a b := a > b
  ge a b := a ≥ b
  ne a b := a != b

example (dict : List Char → Option Nat) : Lawful (natPep dict) (· ≤ ·) := by
  constructor <;> intros <;>
    (try simp only [natPep, decide_eq_true_eq, beq_iff_eq, bne_iff_ne, ne_eq]) <;> omega

example : WellFormedPiece [' ', '>', '=', ' ', '1', '.', '0', ' '] :=
  (predicate_piece_grammar _).1.mp (by decide +kernel)

example : matchPiece ['<', '='] = some (['<'], ['=']) ∧ matchPiece ['<', '=', '1', ' ', '2'] = none ∧
    ¬ WellFormedPiece ['1', '.', '0'] := by
  refine ⟨by decide +kernel, by decide +kernel, ?_⟩
  intro h
  have := (predicate_piece_grammar _).1.mpr h
  revert this; decide +kernel

example :
    let P := natPep (fun s => if s = ['1'] then some 1 else if s = ['2'] then some 2 else if s = ['3'] then some 3 else none)
    (∃ pred, mkPredicate P ['>', '=', '1', ',', ' ', '<', '3'] = .ok pred ∧
      satisfiedBy P pred ['2'] = .ok true ∧ satisfiedBy P pred ['3'] = .ok false) ∧
    mkPredicate P ['>', '=', '1', ','] = .error .valueError ∧
    mkPredicate P ['>', '=', '9'] = .error .invalidVersion ∧
    isCompatible P ['1'] ['2'] false = .ok true ∧ isCompatible P ['1'] ['2'] true = .ok false ∧
    isCompatible P ['2'] ['2'] true = .ok true ∧ isCompatible P ['3'] ['2'] false = .ok false := by
  refine ⟨⟨[(['>', '='], 1), (['<'], 3)], ?_, ?_, ?_⟩, ?_, ?_, ?_, ?_, ?_, ?_⟩ <;> decide +kernel

end Oslo.Version

