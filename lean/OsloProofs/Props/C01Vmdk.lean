/-
C01-7 — the VMDK inspector's verdict in sparse-header mode depends on the bytes only, never on
the chunking: `verdict (runChunks s0 chunks) = specVmdk chunks.flatten` under `VmdkSparse`.
-/
import OsloProofs.Lemmas.VmdkVerdict
namespace Oslo.Insp

/-- the sparse-extent header fields of a stream (`struct.unpack('<4sIIQQQQIQQ', s[:64])`) -/
def hdrOf (s : Bytes) : SparseHeader :=
  { sig := s.take 4, ver := leNat (slice s 4 8), sectors := leNat (slice s 12 20),
    descSec := leNat (slice s 28 36), descNum := leNat (slice s 36 44), gdOffset := leNat (slice s 56 64) }

/-- **sparse-header mode**: at least the 64-byte header, the `KDMV` signature, a supported version,
    and — when the header announces a footer — a length outside the 63-byte window of finding F3 -/
def VmdkSparse (s : Bytes) : Prop :=
  64 ≤ s.length ∧ s.take 4 = kdmv ∧
  ((hdrOf s).ver = 1 ∨ (hdrOf s).ver = 2 ∨ (hdrOf s).ver = 3) ∧
  ((hdrOf s).gdOffset = Gen.vmdkGdAtEnd → s.length < 1536 ∨ 1599 ≤ s.length)

instance (s : Bytes) : Decidable (VmdkSparse s) := by unfold VmdkSparse; infer_instance

/-- **the whole-stream specification of the verdict** (transcription of `spec_vmdk` in
    notes/design-spec-vhdx-vmdk.py) -/
def specVmdk (s : Bytes) : Verdict :=
  let H := hdrOf s
  let foot := decide (H.gdOffset = Gen.vmdkGdAtEnd)
  if H.descSec * 512 ≠ Gen.vmdkDescOffset then
    -- post_process raises after adding the (never fed) footer region; the inspector is not fed again
    { fmtMatch := .ok true, complete := !foot, vsize := .ok 0,
      safety := if foot then .refused else .failed ["descriptor"], raised := some .imageFormat }
  else
    let dl := min (H.descNum * 512) Gen.vmdkDescMaxSize
    let dd := sliceOf s 512 dl
    let parsed := if dl = dd.length then parseDesc dd else none
    let dt := parsed.map (·.1)
    let vt := (parsed.map (·.2)).getD formatNotFound
    let complete := (!foot || decide (1536 ≤ s.length)) && decide (dl = dd.length)
    { fmtMatch := .ok true, complete := complete, vsize := .ok (vsizeOn dt vt H.sectors),
      safety := safetyOn complete foot (checkDescOn dt vt) (CheckRes.ofExcept (footerCheckH H (lastN 1536 s))),
      raised := none }

theorem lemma_vmdk_parse_hdrOf (s : Bytes) (h : 64 ≤ s.length) : parseSparseHeader s 0 = .ok (hdrOf s) := by
  unfold parseSparseHeader hdrOf
  simp only [Gen.vmdkMinSparseHeader, Nat.zero_add]
  have hl : (slice s 0 64).length = 64 := by simp [slice]; omega
  rw [if_neg (by rw [hl]; simp)]
  have e : ∀ a b, b ≤ 64 → slice (slice s 0 64) a b = slice s a b := by
    intro a b hb
    simp only [slice, List.drop_zero, List.take_take]
    congr 2; omega
  rw [e 0 4 (by omega), e 4 8 (by omega), e 12 20 (by omega), e 28 36 (by omega), e 36 44 (by omega),
    e 56 64 (by omega)]
  simp [slice]


/-- with a version in {1,2,3} byte 5 of the stream is NUL: every early parse of a prefix shorter than
    64 bytes sees at most `KDMV` and the version byte, hence no `createType` -/
theorem lemma_nulAt5_of_ver (s : Bytes) (h : 64 ≤ s.length) (hv : leNat (slice s 4 8) ≤ 3) : NulAt5 s := by
  rcases s with _ | ⟨a0, _ | ⟨a1, _ | ⟨a2, _ | ⟨a3, _ | ⟨a4, _ | ⟨a5, _ | ⟨a6, _ | ⟨a7, rest⟩⟩⟩⟩⟩⟩⟩⟩
  all_goals try (simp only [List.length_cons, List.length_nil] at h; omega)
  right
  simp only [slice, leNat, List.take_succ_cons, List.take_zero, List.drop_succ_cons, List.drop_zero,
    List.foldr_cons, List.foldr_nil] at hv
  have h5 : a5.toNat = 0 := by omega
  have : a5 = 0 := UInt8.toNat_inj.mp h5
  simp [this]


theorem lemma_vmdk_safetyOn_congr (c foot cd : Bool) (cf cf' : CheckRes) (h : c = true → foot = true → cf = cf') :
    safetyOn c foot cd cf = safetyOn c foot cd cf' := by
  cases c
  · rfl
  · cases foot
    · rfl
    · rw [h rfl rfl]

/-- an observer that ignores `desc_text` when there is no createType sees, through `DescSt`, the parse
    of the full descriptor region -/
theorem lemma_descSt_spec {α : Type} (f : Option Bytes → Bytes → α) (dd : Bytes) (dl : Nat)
    (dt : Option Bytes) (vt : Bytes) (hf : ∀ dt, f dt formatNotFound = f none formatNotFound)
    (h : DescSt dd dl dt vt) :
    f dt vt = f ((if dl = dd.length then parseDesc dd else none).map (·.1))
      (((if dl = dd.length then parseDesc dd else none).map (·.2)).getD formatNotFound) := by
  unfold DescSt at h
  split at h
  · rename_i hc
    rw [if_pos hc]
    cases hp : parseDesc dd with
    | none =>
      rw [hp] at h
      subst h
      exact hf dt
    | some x =>
      rw [hp] at h
      obtain ⟨rfl, rfl⟩ := h
      rfl
  · rename_i hc
    rw [if_neg hc]
    subst h
    exact hf dt

/-- outside the window `1536 ≤ |s| < 1599` the footer region is full exactly when the stream has 1536
    bytes, and then holds the last 1536 bytes of the stream -/
theorem lemma_footInv_window (fd s : Bytes) (h : FootInv fd s) (hw : s.length < 1536 ∨ 1599 ≤ s.length) :
    decide (1536 = fd.length) = decide (1536 ≤ s.length) ∧ (1536 ≤ s.length → fd = lastN 1536 s) := by
  obtain ⟨b, hb, hbl, hfd⟩ := h
  have hlen : fd.length = min 1536 (s.length - b) := by
    rw [hfd, lemma_lastN_length 1536 (by omega)]; simp
  refine ⟨decide_eq_decide.mpr (by omega), fun hs => ?_⟩
  rw [hfd, lemma_lastN_pos 1536 (by omega), lemma_lastN_pos 1536 (by omega), List.length_drop, List.drop_drop]
  have e : b + (s.length - b - 1536) = s.length - 1536 := by omega
  rw [e]

/-- the final state of a feed whose bytes so far hold a valid 64-byte header, for any chunking
    (state-level form of C01-7; C02/C07 use it to talk about `desc_text`, `vmdktype` and prefixes of a
    stream) -/
theorem lemma_vmdk_outcome (s0 : Insp) (h0 : Insp.init .vmdk = some s0) (chunks : List Bytes)
    (hlen : 64 ≤ chunks.flatten.length) (hok : HdrOK (hdrOf chunks.flatten)) :
    VmdkOutcome (decide ((hdrOf chunks.flatten).gdOffset = Gen.vmdkGdAtEnd))
      (min ((hdrOf chunks.flatten).descNum * 512) Gen.vmdkDescMaxSize) (hdrOf chunks.flatten)
      chunks.flatten (feed s0 chunks) :=
  lemma_vmdk_feed hok rfl rfl s0 h0 chunks
    (lemma_nulAt5_of_ver _ hlen (by
      have : (hdrOf chunks.flatten).ver = leNat (slice chunks.flatten 4 8) := rfl
      have := hok.ver
      omega))
    hlen (lemma_vmdk_parse_hdrOf chunks.flatten hlen)

/-- **vmdk_chunk_independent_partial** (C01-7) — for every stream in sparse-header mode and every
    chunking of it (empty chunks included), the verdict of the VMDK inspector — `format_match`,
    `complete`, `virtual_size`, the `safety_check` outcome and whether `eat_chunk` raised — is the
    whole-stream function `specVmdk` of the concatenated bytes.
    Missing (hypothesis `VmdkSparse`): streams shorter than 64 bytes, without the `KDMV` signature or
    with a version outside {1,2,3} (text-descriptor mode and the early-parse residue, known finding
    KF_F1), and streams that announce a footer and have 1536 ≤ length < 1599 (known finding KF_F3);
    the statement is false there. -/
theorem vmdk_chunk_independent_partial (s0 : Insp) (h0 : Insp.init .vmdk = some s0) (chunks : List Bytes)
    (hs : VmdkSparse chunks.flatten) :
    verdict (runChunks s0 chunks) = specVmdk chunks.flatten := by
  obtain ⟨hlen, hsig, hver, hfl⟩ := hs
  have hok : HdrOK (hdrOf chunks.flatten) := ⟨hsig, hver⟩
  have hout := lemma_vmdk_outcome s0 h0 chunks hlen hok
  generalize hs : chunks.flatten = s at *
  generalize hH : hdrOf s = H at *
  unfold specVmdk
  simp only [hH]
  unfold runChunks
  rcases hout with ⟨hds, hd, fo, fd, dt, vt, hr, hp, hl, hfi, hst⟩ | ⟨hds, n, hd, d0, dt, hr, hp, hl, hc⟩
  · rw [hr, if_neg (by simpa using hds)]
    simp only [lemma_post_finish, verdict, lemma_post_formatMatch, lemma_vmdk_startsWith_kdmv hp hok.sig,
      lemma_post_complete hl, lemma_post_vsize hp,
      lemma_post_safety hp hok.sig]
    have hv1 := lemma_descSt_spec (vsizeOn · · H.sectors) _ _ _ _
      (fun dt => by rw [lemma_vsizeOn_fnf, lemma_vsizeOn_fnf]) hst
    have hv2 := lemma_descSt_spec checkDescOn _ _ _ _
      (fun dt => by rw [lemma_checkDescOn_fnf, lemma_checkDescOn_fnf]) hst
    have hcomp : (!decide (H.gdOffset = Gen.vmdkGdAtEnd) || decide (1536 = fd.length)) =
        (!decide (H.gdOffset = Gen.vmdkGdAtEnd) || decide (1536 ≤ s.length)) := by
      by_cases hg : H.gdOffset = Gen.vmdkGdAtEnd
      · rw [(lemma_footInv_window fd s hfi (hfl hg)).1]
      · simp [hg]
    rw [hcomp, hv1, hv2, lemma_vmdk_safetyOn_congr _ _ _ (CheckRes.ofExcept (footerCheckH H fd))
      (CheckRes.ofExcept (footerCheckH H (lastN 1536 s)))]
    intro hc hfoot
    rw [hfoot] at hc
    simp only [Bool.not_true, Bool.false_or, Bool.and_eq_true, decide_eq_true_eq] at hc
    rw [(lemma_footInv_window fd s hfi (hfl (of_decide_eq_true hfoot))).2 hc.1]
  · rw [hr, if_pos hds]
    simp only [lemma_err_finish, verdict, lemma_err_formatMatch, lemma_vmdk_startsWith_kdmv hp hok.sig,
      lemma_err_complete hl hc, lemma_err_vsize, lemma_err_safety hp hok.sig hc]

/-- **two chunkings of the same sparse-header stream give the same verdict** -/
theorem vmdk_verdict_eq_partial (s0 : Insp) (h0 : Insp.init .vmdk = some s0) (c1 c2 : List Bytes)
    (h : c1.flatten = c2.flatten) (hs : VmdkSparse c1.flatten) :
    let v1 := verdict (runChunks s0 c1)
    let v2 := verdict (runChunks s0 c2)
    v1.fmtMatch = v2.fmtMatch ∧ v1.complete = v2.complete ∧ v1.vsize = v2.vsize ∧
    v1.safety = v2.safety ∧ v1.raised = v2.raised := by
  rw [vmdk_chunk_independent_partial s0 h0 c1 hs, vmdk_chunk_independent_partial s0 h0 c2 (h ▸ hs), h]
  simp


theorem lemma_vmdk_verdict_of_flatten (s0 : Insp) (h0 : Insp.init .vmdk = some s0) (chunks : List Bytes)
    (s : Bytes) (e : chunks.flatten = s) (hs : VmdkSparse s) : verdict (runChunks s0 chunks) = specVmdk s := by
  subst e
  exact vmdk_chunk_independent_partial s0 h0 chunks hs

theorem lemma_vmdkSparse_of_hdr {s : Bytes} {H : SparseHeader} (hH : hdrOf s = H) (hl : 64 ≤ s.length)
    (hok : HdrOK H) (hg : H.gdOffset = Gen.vmdkGdAtEnd → s.length < 1536 ∨ 1599 ≤ s.length) : VmdkSparse s := by
  subst hH
  exact ⟨hl, hok.sig, hok.ver, hg⟩

theorem lemma_specVmdk_parsed (s : Bytes) (H : SparseHeader) (t ty : Bytes) (hH : hdrOf s = H)
    (hds : H.descSec * 512 = Gen.vmdkDescOffset)
    (hfull : 512 + min (H.descNum * 512) Gen.vmdkDescMaxSize ≤ s.length)
    (hp : parseDesc (sliceOf s 512 (min (H.descNum * 512) Gen.vmdkDescMaxSize)) = some (t, ty)) :
    specVmdk s =
      let foot := decide (H.gdOffset = Gen.vmdkGdAtEnd)
      let complete := !foot || decide (1536 ≤ s.length)
      { fmtMatch := .ok true, complete := complete, vsize := .ok (vsizeOn (some t) ty H.sectors),
        safety := safetyOn complete foot (checkDescOn (some t) ty)
          (CheckRes.ofExcept (footerCheckH H (lastN 1536 s))),
        raised := none } := by
  subst hH
  have hlen : min ((hdrOf s).descNum * 512) Gen.vmdkDescMaxSize =
      (sliceOf s 512 (min ((hdrOf s).descNum * 512) Gen.vmdkDescMaxSize)).length := by
    rw [lemma_sliceOf_length]; omega
  unfold specVmdk
  simp only [hds, ne_eq, not_true_eq_false, if_false, if_pos hlen, hp, decide_eq_true hlen, Option.map_some,
    Option.getD_some, Bool.and_true]


/-! ### non-vacuity: a concrete sparse image (header, descriptor at sector 1), three chunkings -/

/-- 64-byte header: KDMV, version 1, capacity 2048 sectors, descriptor at sector 1, one sector long,
    no footer; padding to sector 1; a one-sector descriptor -/
def exVmdk : Bytes :=
  kdmv ++ [1, 0, 0, 0] ++ zeros 4 ++ [0, 8, 0, 0, 0, 0, 0, 0] ++ zeros 8 ++
    [1, 0, 0, 0, 0, 0, 0, 0] ++ [1, 0, 0, 0, 0, 0, 0, 0] ++ zeros 20 ++ zeros 448 ++
    ascii "createType=\"monolithicSparse\"\nRW 2048 SPARSE \"x.vmdk\"\n" ++ zeros 458

theorem lemma_exVmdk_hdr : hdrOf exVmdk = ⟨kdmv, 1, 2048, 1, 1, 0⟩ := by decide +kernel

theorem lemma_exVmdk_text_length :
    (ascii "createType=\"monolithicSparse\"\nRW 2048 SPARSE \"x.vmdk\"\n").length = 54 := by
  rw [ascii_ofList]; rfl

theorem lemma_exVmdk_length : exVmdk.length = 1024 := by
  simp only [exVmdk, List.length_append, lemma_exVmdk_text_length, lemma_kdmv_length, zeros,
    List.length_replicate, List.length_cons, List.length_nil]

theorem lemma_exVmdk_desc : sliceOf exVmdk 512 512 =
    ascii "createType=\"monolithicSparse\"\nRW 2048 SPARSE \"x.vmdk\"\n" ++ zeros 458 := by
  unfold exVmdk
  rw [List.append_assoc _ (ascii _) _]
  apply lemma_sliceOf_append_right <;>
  simp only [List.length_append, lemma_exVmdk_text_length, lemma_kdmv_length, zeros, List.length_replicate,
    List.length_cons, List.length_nil]

theorem lemma_exVmdk_parse : parseDesc (sliceOf exVmdk 512 512) =
    some (ascii "createtype=\"monolithicsparse\"\nrw 2048 sparse \"x.vmdk\"\n", ascii "monolithicsparse") := by
  rw [lemma_exVmdk_desc, ascii_ofList, ascii_ofList, ascii_ofList]
  decide +kernel

theorem lemma_exVmdk_sparse : VmdkSparse exVmdk :=
  lemma_vmdkSparse_of_hdr lemma_exVmdk_hdr (by rw [lemma_exVmdk_length]; decide) ⟨rfl, Or.inl rfl⟩
    (fun h => absurd h (by decide))

example : exVmdk.length = 1024 ∧ VmdkSparse exVmdk := ⟨lemma_exVmdk_length, lemma_exVmdk_sparse⟩

instance instDecEqVmdkVsize : DecidableEq (Except Err Int) := fun a b =>
  match a, b with
  | .ok x, .ok y => if h : x = y then isTrue (by rw [h]) else isFalse (by intro e; cases e; exact h rfl)
  | .error x, .error y => if h : x = y then isTrue (by rw [h]) else isFalse (by intro e; cases e; exact h rfl)
  | .ok _, .error _ => isFalse (by intro e; cases e)
  | .error _, .ok _ => isFalse (by intro e; cases e)

theorem lemma_exVmdk_spec :
    (specVmdk exVmdk).complete = true ∧ (specVmdk exVmdk).vsize = .ok (2048 * 512) ∧
    (specVmdk exVmdk).safety = .ok ∧ (specVmdk exVmdk).raised = none := by
  rw [lemma_specVmdk_parsed exVmdk _ _ _ lemma_exVmdk_hdr rfl (by rw [lemma_exVmdk_length]; decide)
    lemma_exVmdk_parse, lemma_exVmdk_length, ascii_ofList, ascii_ofList]
  decide +kernel

example :
    (specVmdk exVmdk).complete = true ∧ (specVmdk exVmdk).vsize = .ok (2048 * 512) ∧
    (specVmdk exVmdk).safety = .ok ∧ (specVmdk exVmdk).raised = none := lemma_exVmdk_spec

example : ∀ s0, Insp.init .vmdk = some s0 →
    safetyCheck (runChunks s0 [exVmdk]).1 = .ok ∧
    safetyCheck (runChunks s0 [exVmdk.take 10, [], (exVmdk.drop 10).take 60, exVmdk.drop 70]).1 = .ok ∧
    virtualSize (runChunks s0 [exVmdk.take 3, exVmdk.drop 3]).1 = .ok (2048 * 512) := by
  intro s0 h0
  have e2 : [exVmdk.take 10, [], (exVmdk.drop 10).take 60, exVmdk.drop 70].flatten = exVmdk := by
    simp only [List.flatten_cons, List.flatten_nil, List.nil_append, List.append_nil]
    rw [show exVmdk.drop 70 = (exVmdk.drop 10).drop 60 by rw [List.drop_drop], List.take_append_drop,
      List.take_append_drop]
  have h1 := lemma_vmdk_verdict_of_flatten s0 h0 [exVmdk] exVmdk (by simp) lemma_exVmdk_sparse
  have h2 := lemma_vmdk_verdict_of_flatten s0 h0 _ exVmdk e2 lemma_exVmdk_sparse
  have h3 := lemma_vmdk_verdict_of_flatten s0 h0 [exVmdk.take 3, exVmdk.drop 3] exVmdk (by simp)
    lemma_exVmdk_sparse
  exact ⟨(congrArg Verdict.safety h1).trans lemma_exVmdk_spec.2.2.1,
    (congrArg Verdict.safety h2).trans lemma_exVmdk_spec.2.2.1,
    (congrArg Verdict.vsize h3).trans lemma_exVmdk_spec.2.1⟩


/-! ### the hypothesis is needed: finding F3 reproduced by the model -/

/-- a 1540-byte stream whose header announces a footer (descriptor at sector 1, zero sectors long) -/
def exF3 : Bytes :=
  kdmv ++ [1, 0, 0, 0] ++ zeros 20 ++ [1, 0, 0, 0, 0, 0, 0, 0] ++ zeros 8 ++ zeros 12 ++
    List.replicate 8 255 ++ zeros 1476

/-- **vmdk_footer_window_counterexample** (known finding KF_F3) — for a footer-announcing stream of
    1540 bytes, `complete` depends on the chunking: one chunk gives `true`, a cut after 10 bytes gives
    `false` (the footer window is created at the chunk that completes the header and misses the
    bytes before it).  Such streams are excluded by `VmdkSparse`. -/
theorem vmdk_footer_window_counterexample (s0 : Insp) (h0 : Insp.init .vmdk = some s0) :
    exF3.length = 1540 ∧ ¬ VmdkSparse exF3 ∧
    (verdict (runChunks s0 [exF3])).complete = true ∧
    (verdict (runChunks s0 [exF3.take 10, exF3.drop 10])).complete = false := by
  rw [lemma_vmdk_init s0 h0]
  decide +kernel


/-! ### … and finding F1's early-parse residue, outside `VmdkSparse` (version field not in {1,2,3}) -/

def exF1 : Bytes := ascii "KDMVcreateType=\"monolithicSparse\"\n" ++ zeros 30

/-- **vmdk_early_parse_counterexample** (known finding KF_F1) — a 64-byte `KDMV…` stream whose version
    field is text: fed in one chunk `virtual_size` is 0, with a cut after 40 bytes the offset-0
    descriptor region is parsed early, its `createType` survives the header's rejection, and
    `virtual_size` is a 71-bit number.  Excluded by the version clause of `VmdkSparse`. -/
theorem vmdk_early_parse_counterexample (s0 : Insp) (h0 : Insp.init .vmdk = some s0) :
    exF1.length = 64 ∧ ¬ VmdkSparse exF1 ∧
    (verdict (runChunks s0 [exF1])).vsize = .ok 0 ∧
    (verdict (runChunks s0 [exF1.take 40, exF1.drop 40])).vsize ≠ .ok 0 := by
  rw [lemma_vmdk_init s0 h0, exF1, ascii_ofList]
  decide +kernel

end Oslo.Insp
