/-
C08 — mask_dict_password masks recursively and never modifies its argument.

Property theorems over OsloModel/MaskDict.lean.  A Python mapping has pairwise
distinct keys; in the model that is the representation invariant `WFVal`
(hereditarily duplicate-free key lists).  Non-mutation holds of the model by
construction (a pure function of its argument) and is an obligation of the
correspondence/search on the code.
-/
import OsloModel.MaskDict
namespace Oslo.MaskDict
open Oslo.Mask

/-- the key is a `str` whose lower-casing contains a sanitize key -/
def KeyHit (k : PyKey) : Prop := ∃ ks, k = .str ks ∧ keyMatches Gen.sanitizeKeys ks = true

mutual
/-- `MaskedVal mask k v r`: `r` is what the result stores under key `k` for the argument's value `v` -/
inductive MaskedVal (mask : List Char) : PyKey → PyVal → PyVal → Prop
  /-- a mapping value is processed recursively, whatever its key -/
  | map (k : PyKey) (items items' : List (PyKey × PyVal)) :
      MaskedItems mask items items' → MaskedVal mask k (.map items) (.map items')
  /-- a non-mapping value under a string key containing a sanitize key becomes the mask -/
  | hitStr (k : PyKey) (s : List Char) : KeyHit k → MaskedVal mask k (.str s) (.str mask)
  | hitOther (k : PyKey) (i : Nat) : KeyHit k → MaskedVal mask k (.opaque i) (.str mask)
  /-- any other string value goes through `mask_password` -/
  | pass (k : PyKey) (s : List Char) : ¬ KeyHit k → MaskedVal mask k (.str s) (.str (maskPassword s mask))
  /-- everything else is returned as it is (the same object) -/
  | keep (k : PyKey) (i : Nat) : ¬ KeyHit k → MaskedVal mask k (.opaque i) (.opaque i)
/-- same keys in the same order, values related pointwise -/
inductive MaskedItems (mask : List Char) : List (PyKey × PyVal) → List (PyKey × PyVal) → Prop
  | nil : MaskedItems mask [] []
  | cons (k : PyKey) (v v' : PyVal) (rest rest' : List (PyKey × PyVal)) :
      MaskedVal mask k v v' → MaskedItems mask rest rest' → MaskedItems mask ((k, v) :: rest) ((k, v') :: rest')
end

/-- the result of `mask_dict_password` on a mapping -/
def Masked (mask : List Char) (v r : PyVal) : Prop :=
  ∃ items items', v = .map items ∧ r = .map items' ∧ MaskedItems mask items items'

mutual
/-- representation invariant: at every level the keys of a mapping are pairwise distinct -/
inductive WFVal : PyVal → Prop
  | str (s : List Char) : WFVal (.str s)
  | opaque (i : Nat) : WFVal (.opaque i)
  | map (items : List (PyKey × PyVal)) : WFItems items → (items.map Prod.fst).Nodup → WFVal (.map items)
inductive WFItems : List (PyKey × PyVal) → Prop
  | nil : WFItems []
  | cons (k : PyKey) (v : PyVal) (rest : List (PyKey × PyVal)) : WFVal v → WFItems rest → WFItems ((k, v) :: rest)
end

theorem lemma_dictSet_fresh (k : PyKey) (v : PyVal) (out : List (PyKey × PyVal))
    (h : k ∉ out.map Prod.fst) : dictSet out k v = out ++ [(k, v)] := by
  induction out with
  | nil => rfl
  | cons kv out ih =>
    rw [List.map_cons, List.mem_cons, not_or] at h
    rw [dictSet, if_neg (Ne.symm h.1), ih h.2, List.cons_append]

theorem lemma_maskItems_append (mask : List Char) (items out : List (PyKey × PyVal))
    (h : (out.map Prod.fst ++ items.map Prod.fst).Nodup) :
    maskItems mask items out = out ++ items.map (fun kv => (kv.1, maskValue mask kv.1 kv.2)) := by
  induction items generalizing out with
  | nil => exact (List.append_nil out).symm
  | cons kv rest ih =>
    have hk : kv.1 ∉ out.map Prod.fst :=
      fun hm => (List.nodup_append.1 h).2.2 _ hm _ (List.mem_cons_self ..) rfl
    rw [maskItems, lemma_dictSet_fresh _ _ out hk, ih, List.append_assoc]
    · rfl
    · rw [List.map_append, List.append_assoc]; exact h

theorem lemma_maskItems_closed (mask : List Char) (items : List (PyKey × PyVal))
    (hn : (items.map Prod.fst).Nodup) :
    maskItems mask items [] = items.map (fun kv => (kv.1, maskValue mask kv.1 kv.2)) :=
  lemma_maskItems_append mask items [] hn

theorem lemma_map_keys (f : PyKey → PyVal → PyVal) (items : List (PyKey × PyVal)) :
    (items.map (fun kv => (kv.1, f kv.1 kv.2))).map Prod.fst = items.map Prod.fst := by
  rw [List.map_map]; rfl

theorem lemma_keyHit_str (ks : List Char) : KeyHit (.str ks) ↔ keyMatches Gen.sanitizeKeys ks = true :=
  ⟨fun ⟨_, h, hm⟩ => PyKey.str.inj h ▸ hm, fun h => ⟨ks, rfl, h⟩⟩

theorem lemma_keyHit_other (i : Nat) : ¬ KeyHit (.other i) := nofun

/-- a mapping value is recursed into whatever its key is -- also under a sanitize key, where it is NOT
    replaced by the mask -/
theorem maskdict_mapping_always_recursed (mask : List Char) (k : PyKey) (items : List (PyKey × PyVal)) :
    maskValue mask k (.map items) = .map (maskItems mask items []) := rfl

/-- the key plays no part for a mapping value -/
theorem maskdict_mapping_key_irrelevant (mask : List Char) (k k' : PyKey) (items : List (PyKey × PyVal)) :
    maskValue mask k (.map items) = maskValue mask k' (.map items) := rfl

theorem lemma_maskValue_hit (mask : List Char) (k : PyKey) {v : PyVal} (hk : KeyHit k)
    (hv : ∀ items, v ≠ .map items) : maskValue mask k v = .str mask := by
  obtain ⟨ks, rfl, hm⟩ := hk
  rcases v with s | i | items
  · exact if_pos hm
  · exact if_pos hm
  · exact absurd rfl (hv items)

theorem lemma_maskValue_miss_opaque (mask : List Char) {k : PyKey} (j : Nat) (hk : ¬ KeyHit k) :
    maskValue mask k (.opaque j) = .opaque j := by
  cases k with
  | other i => rfl
  | str ks => exact if_neg (mt (lemma_keyHit_str ks).2 hk)

theorem lemma_maskValue_miss_str (mask : List Char) {k : PyKey} (s : List Char) (hk : ¬ KeyHit k) :
    maskValue mask k (.str s) = .str (maskPassword s mask) := by
  cases k with
  | other i => rfl
  | str ks => exact if_neg (mt (lemma_keyHit_str ks).2 hk)

/-- a non-mapping value under a str key containing a sanitize key is replaced by the mask, whatever it was -/
theorem maskdict_hit_replaces (mask ks : List Char) (v : PyVal) (hk : keyMatches Gen.sanitizeKeys ks = true)
    (hv : ∀ items, v ≠ .map items) : maskValue mask (.str ks) v = .str mask :=
  lemma_maskValue_hit mask _ ⟨ks, rfl, hk⟩ hv

/-- feeding a result to a further call (same or another mask): what was masked under a sanitize key is
    masked again with the new mask, never unmasked and never passed through `mask_password` -/
theorem maskdict_remask_hit (mask mask' ks : List Char) (v : PyVal) (hk : keyMatches Gen.sanitizeKeys ks = true)
    (hv : ∀ items, v ≠ .map items) :
    maskValue mask' (.str ks) (maskValue mask (.str ks) v) = .str mask' := by
  rw [maskdict_hit_replaces mask ks v hk hv]
  exact maskdict_hit_replaces mask' ks _ hk (by nofun)

/-- a key that is not a `str` never causes masking: an object is returned as it is, a string goes through
    `mask_password` -/
theorem maskdict_nonstr_key (mask : List Char) (i j : Nat) (s : List Char) :
    maskValue mask (.other i) (.opaque j) = .opaque j ∧
    maskValue mask (.other i) (.str s) = .str (maskPassword s mask) :=
  ⟨lemma_maskValue_miss_opaque mask j (lemma_keyHit_other i), lemma_maskValue_miss_str mask s (lemma_keyHit_other i)⟩

/-- a str key containing no sanitize key behaves like a non-str key -/
theorem maskdict_miss_key (mask ks : List Char) (j : Nat) (s : List Char)
    (hk : keyMatches Gen.sanitizeKeys ks = false) :
    maskValue mask (.str ks) (.opaque j) = .opaque j ∧
    maskValue mask (.str ks) (.str s) = .str (maskPassword s mask) :=
  have hn : ¬ KeyHit (.str ks) := fun h => by rw [lemma_keyHit_str, hk] at h; cases h
  ⟨lemma_maskValue_miss_opaque mask j hn, lemma_maskValue_miss_str mask s hn⟩

/-- objects that are neither `str` nor mapping are never looked into: the result for such a value does not
    depend on which object it is beyond its identity (it is the same object or the mask) -/
theorem maskdict_opaque_same_or_mask (mask : List Char) (k : PyKey) (j : Nat) :
    maskValue mask k (.opaque j) = .opaque j ∨ maskValue mask k (.opaque j) = .str mask := by
  by_cases hk : KeyHit k
  · exact .inr (lemma_maskValue_hit mask k hk (by nofun))
  · exact .inl (lemma_maskValue_miss_opaque mask j hk)

theorem lemma_wfVal_map {items : List (PyKey × PyVal)} (h : WFVal (.map items)) :
    WFItems items ∧ (items.map Prod.fst).Nodup := by
  cases h with
  | map _ hi hn => exact ⟨hi, hn⟩

/-- induction on a well-formedness proof, for values and item lists at once -/
theorem lemma_wf_induct {P : PyVal → Prop} {Q : List (PyKey × PyVal) → Prop}
    (hstr : ∀ s, P (.str s)) (hopaque : ∀ i, P (.opaque i))
    (hmap : ∀ items, WFItems items → (items.map Prod.fst).Nodup → Q items → P (.map items))
    (hnil : Q []) (hcons : ∀ k v rest, WFVal v → WFItems rest → P v → Q rest → Q ((k, v) :: rest)) :
    (∀ v, WFVal v → P v) ∧ (∀ items, WFItems items → Q items) :=
  ⟨fun _ => WFVal.rec hstr hopaque hmap hnil hcons, fun _ => WFItems.rec hstr hopaque hmap hnil hcons⟩

/-- specification and well-formedness together, only to share the induction -/
theorem lemma_mask_inv (mask : List Char) :
    (∀ v, WFVal v → ∀ k, MaskedVal mask k v (maskValue mask k v) ∧ WFVal (maskValue mask k v)) ∧
    (∀ items, WFItems items →
      MaskedItems mask items (items.map (fun kv => (kv.1, maskValue mask kv.1 kv.2))) ∧
      WFItems (items.map (fun kv => (kv.1, maskValue mask kv.1 kv.2)))) := by
  refine lemma_wf_induct ?_ ?_ ?_ ⟨.nil, .nil⟩ ?_
  · intro s k
    by_cases hk : KeyHit k
    · rw [lemma_maskValue_hit mask k hk (by nofun)]; exact ⟨.hitStr k s hk, .str _⟩
    · rw [lemma_maskValue_miss_str mask s hk]; exact ⟨.pass k s hk, .str _⟩
  · intro i k
    by_cases hk : KeyHit k
    · rw [lemma_maskValue_hit mask k hk (by nofun)]; exact ⟨.hitOther k i hk, .str _⟩
    · rw [lemma_maskValue_miss_opaque mask i hk]; exact ⟨.keep k i hk, .opaque i⟩
  · intro items _ hn ih k
    rw [maskdict_mapping_always_recursed, lemma_maskItems_closed mask items hn]
    exact ⟨.map k items _ ih.1, .map _ ih.2 (by rw [lemma_map_keys]; exact hn)⟩
  · intro k v rest _ _ hv hr
    exact ⟨.cons k v _ rest _ (hv k).1 hr.1, .cons k _ _ (hv k).2 hr.2⟩

theorem lemma_maskValue_spec (mask : List Char) (k : PyKey) :
    (v : PyVal) → WFVal v → MaskedVal mask k v (maskValue mask k v) :=
  fun v h => ((lemma_mask_inv mask).1 v h k).1

theorem lemma_maskItems_wf (mask : List Char) :
    (items : List (PyKey × PyVal)) → WFItems items →
      WFItems (items.map (fun kv => (kv.1, maskValue mask kv.1 kv.2))) :=
  fun items h => ((lemma_mask_inv mask).2 items h).2

/-- closed form: on a mapping with distinct keys the result is the argument's item list with each value
    replaced by `maskValue` of its own key and value -- one output entry per input entry, in order, no entry
    depending on any other entry -/
theorem maskdict_closed_form (items : List (PyKey × PyVal)) (mask : List Char) (h : WFVal (.map items)) :
    maskDict (.map items) mask = .ok (.map (items.map (fun kv => (kv.1, maskValue mask kv.1 kv.2)))) := by
  rw [maskDict, lemma_maskItems_closed mask items (lemma_wfVal_map h).2]

/-- for every mapping (any depth, any width) the result satisfies the specification `Masked`:
    same keys in the same order at every level, mapping values recursed, a non-mapping value under a string
    key containing a sanitize key (case-insensitively) replaced by the mask, other strings passed through
    `mask_password`, everything else the same object -/
theorem maskdict_spec (items : List (PyKey × PyVal)) (mask : List Char) (h : WFVal (.map items)) :
    ∃ r, maskDict (.map items) mask = .ok r ∧ Masked mask (.map items) r :=
  ⟨_, maskdict_closed_form items mask h, items, _, rfl, rfl,
    ((lemma_mask_inv mask).2 items (lemma_wfVal_map h).1).1⟩

/-- the result has exactly the argument's keys, in the argument's order -/
theorem maskdict_keys_preserved (items : List (PyKey × PyVal)) (mask : List Char) (h : WFVal (.map items)) :
    ∃ items', maskDict (.map items) mask = .ok (.map items') ∧ items'.map Prod.fst = items.map Prod.fst :=
  ⟨_, maskdict_closed_form items mask h, lemma_map_keys _ items⟩

/-- every entry of the argument has its counterpart in the result, and the result holds nothing else -/
theorem maskdict_entries (items : List (PyKey × PyVal)) (mask : List Char) (h : WFVal (.map items)) :
    ∃ items', maskDict (.map items) mask = .ok (.map items') ∧ items'.length = items.length ∧
      (∀ k v, (k, v) ∈ items → (k, maskValue mask k v) ∈ items') ∧
      (∀ k r, (k, r) ∈ items' → ∃ v, (k, v) ∈ items ∧ r = maskValue mask k v) :=
  ⟨_, maskdict_closed_form items mask h, List.length_map ..,
    fun k v hm => List.mem_map.2 ⟨(k, v), hm, rfl⟩,
    fun k r hm => by obtain ⟨⟨_, v⟩, hm', ⟨⟩⟩ := List.mem_map.1 hm; exact ⟨v, hm', rfl⟩⟩

/-- the result is again a well-formed nested mapping (distinct keys at every level): it can be the argument
    of a further call, to which all of the above applies -/
theorem maskdict_result_wf (items : List (PyKey × PyVal)) (mask : List Char) (h : WFVal (.map items)) :
    ∃ r, maskDict (.map items) mask = .ok r ∧ WFVal r :=
  have ⟨hi, hn⟩ := lemma_wfVal_map h
  ⟨_, maskdict_closed_form items mask h, .map _ (lemma_maskItems_wf mask items hi) (by rw [lemma_map_keys]; exact hn)⟩

/-- a non-mapping argument raises TypeError, and only a non-mapping argument does -/
theorem maskdict_non_mapping_typeerror (v : PyVal) (mask : List Char) :
    (∀ items, v ≠ .map items) ↔ maskDict v mask = .error .typeError := by
  cases v <;> simp [maskDict]

/-- the answer is a function of the argument and the mask only: two calls (in any order, with anything in
    between) on equal arguments give equal results -/
theorem maskdict_deterministic (v v' : PyVal) (mask mask' : List Char) (hv : v = v') (hm : mask = mask') :
    maskDict v mask = maskDict v' mask' := by subst hv; subst hm; rfl

/-- non-vacuity: a three-level mapping with str and non-str keys meets the invariant -/
example : WFVal (.map [(.str "Password".toList, .str "x".toList),
                       (.other 3, .map [(.str "n".toList, .opaque 0),
                                        (.str "auth_token".toList, .map [(.other 1, .str "token=abc".toList)])]),
                       (.str "user".toList, .str "password=abc".toList)]) := by
  -- a literal is `String.ofList […]`: rewriting `toList` away spares the kernel the UTF-8 round trip
  repeat rw [String.toList_ofList]
  repeat (first | decide +kernel | constructor)

example : keyMatches Gen.sanitizeKeys "X-Auth_Token-2".toList = true ∧
          keyMatches Gen.sanitizeKeys "ſecret".toList = false := by
  repeat rw [String.toList_ofList]
  decide +kernel

end Oslo.MaskDict
