/-
C01 / C05 locality — bytes outside every region's window are never looked at.

For an inspector of ANY of the ten formats at a chunk boundary (`Good2`, Lemmas/StableStep.lean:
every state reached from `Insp.init` by `eat_chunk`s that returned normally — `reachable_good2`)
and a chunk from which no region can take anything (`skippable s c.length`, a decidable predicate
of the state and the chunk LENGTH only), `eat_chunk` moves `_total_count` by the chunk length and
does nothing else, whatever the chunk's bytes are.  Hence a driver may skip such runs without
materialising them (`eatSkip`, `eatSkip_sound`, `feed_skip_run`).

Nothing stronger than `Good2` + `skippable` is needed: a `min_length` region completes only through
the bytes it holds, and those do not change; post-processing reads only the region table, the
identity counter and the check list (`lemma_setAux_postProcess`), so it sees the same state again.
`Good2` itself is needed (a state that is not a fixpoint of post-processing may grow a region on
any chunk, also an empty one).
-/
import OsloProofs.Lemmas.StableStep
namespace Oslo.Insp

/-- **eat_ignores_bytes_outside_windows** — at a chunk boundary, if no region of `s` can take
    anything from the next `c.length` bytes (`skippable`: every region is a plain region that is
    complete, or whose window starts at or after `s.total + c.length`, or ends strictly before
    `s.total`; or the chunk is empty), then `eat_chunk(c)` returns normally and the new state is the
    old one with `_total_count` moved by `c.length` — for every content of `c`. -/
theorem eat_ignores_bytes_outside_windows (s : Insp) (c : Bytes) (hg : Good2 s)
    (h : skippable s c.length = true) :
    eatChunk s c = ({ s with total := s.total + c.length }, none) :=
  lemma_eat_no_capture s c hg (lemma_captureAll_skippable s c hg.sinv h)

/-- **eat_skippable_content_irrelevant** — under the same hypothesis two chunks of equal length
    give equal results (state and error) -/
theorem eat_skippable_content_irrelevant (s : Insp) (c1 c2 : Bytes) (hg : Good2 s)
    (hl : c1.length = c2.length) (h : skippable s c1.length = true) :
    eatChunk s c1 = eatChunk s c2 := by
  rw [eat_ignores_bytes_outside_windows s c1 hg h,
    eat_ignores_bytes_outside_windows s c2 hg (hl ▸ h), hl]

/-- **advance_good** — moving `_total_count` keeps the boundary invariant, so the skipping rule can
    be applied again and again along a stream -/
theorem advance_good (s : Insp) (n : Nat) (hg : Good2 s) : Good2 (s.advance n) :=
  lemma_advance_good s n hg

/-- **eatSkip_sound** — when `eatSkip s n` answers `some s'`, every chunk of `n` bytes, whatever its
    content, takes `s` to exactly `s'` without raising; and `s'` is again at a boundary -/
theorem eatSkip_sound (s s' : Insp) (n : Nat) (hg : Good2 s) (h : eatSkip s n = some s') :
    (∀ c : Bytes, c.length = n → eatChunk s c = (s', none)) ∧ Good2 s' := by
  unfold eatSkip at h
  split at h
  · rename_i hsk
    simp only [Option.some.injEq] at h
    subst h
    refine ⟨fun c hc => ?_, lemma_advance_good s n hg⟩
    subst hc
    exact eat_ignores_bytes_outside_windows s c hg hsk
  · simp at h

/-- `eatSkip` answers exactly when the run is skippable -/
theorem eatSkip_isSome (s : Insp) (n : Nat) : (eatSkip s n).isSome = skippable s n := by
  unfold eatSkip
  split <;> simp_all

/-- **skippable_split** — a skippable run may be skipped in pieces (a driver may cap the run length) -/
theorem skippable_split (s : Insp) (m n : Nat) (h : skippable s (m + n) = true) :
    skippable s m = true ∧ skippable (s.advance m) n = true := by
  have key : ∀ r : Region, regionSkips r s.total (m + n) = true →
      regionSkips r s.total m = true ∧ regionSkips r (s.total + m) n = true := by
    intro r hr
    simp only [lemma_regionSkips_iff] at hr ⊢
    obtain ⟨hE, hc | hr⟩ := hr
    · exact ⟨⟨hE, .inl hc⟩, hE, .inl hc⟩
    · exact ⟨⟨hE, .inr (by omega)⟩, hE, .inr (by omega)⟩
  simp only [skippable, List.all_eq_true] at h ⊢
  exact ⟨fun p hp => (key p.2 (h p hp)).1, fun p hp => (key p.2 (h p hp)).2⟩

/-- **feed_split_skippable** — feeding `a`, then a run `z` that is skippable in the state reached,
    then `b`, is feeding `a`, advancing `_total_count` by `z.length`, and feeding `b`: same final
    state, same error.  Only `a` and `b` need to be materialised. -/
theorem feed_split_skippable (s s1 : Insp) (a z b : Bytes) (hg : Good2 s)
    (ha : eatChunk s a = (s1, none)) (hz : skippable s1 z.length = true) :
    feed s [a, z, b] = eatChunk (s1.advance z.length) b := by
  have hg1 : Good2 s1 := by
    have := lemma_eat_good s a hg (by rw [ha])
    rw [ha] at this
    exact this
  simp only [feed, ha, eat_ignores_bytes_outside_windows s1 z hg1 hz, Insp.advance]
  cases eatChunk { s1 with total := s1.total + z.length } b with
  | mk s2 e => cases e <;> rfl

/-- **feed_skip_run** — the same inside any chunk list (InspectWrapper's feeding discipline): if
    feeding `pre` returned normally in state `s1` and the run `z` is skippable there, then
    `pre ++ z :: post` ends as feeding `post` from `s1` advanced by `z.length` does -/
theorem feed_skip_run (s s1 : Insp) (pre post : List Bytes) (z : Bytes) (hg : Good2 s)
    (hpre : feed s pre = (s1, none)) (hz : skippable s1 z.length = true) :
    feed s (pre ++ z :: post) = feed (s1.advance z.length) post := by
  have hg1 : Good2 s1 := by
    have := lemma_feed_good2 pre s hg (by rw [hpre])
    rw [hpre] at this
    exact this
  rw [lemma_feed_append, hpre]
  simp only [feed, eat_ignores_bytes_outside_windows s1 z hg1 hz, Insp.advance]

/-- **reachable_good2** — every state reached from a fresh inspector of any format by chunks that
    were all processed normally is at a boundary, so the theorems above apply to it; and so is
    every state reached from there by skipping -/
theorem reachable_good2 (f : Fmt) (s0 : Insp) (h0 : Insp.init f = some s0) (chunks : List Bytes)
    (h : (feed s0 chunks).2 = none) : Good2 (feed s0 chunks).1 :=
  lemma_feed_good2 chunks s0 (lemma_init_good2 f s0 h0) h

/-! ### non-vacuity -/

/-- the complete `ident` region of a VHDX image -/
def farIdent : Region :=
  { rid := 0, offset := 0, length := 32, minLength := none,
    data := ascii "vhdxfile" ++ List.replicate 24 0, isEnd := false, endDone := false }

/-- a VHDX inspector after the header region (any 64 KiB `hd`) has been captured and post-processing
    has created the metadata region at file offset `mo`; `t` bytes streamed so far -/
def farMetaState (hd : Bytes) (t mo : Nat) : Insp :=
  { fmt := .vhdx, total := t,
    regions := [("ident", farIdent),
                ("header", { rid := 1, offset := 196608, length := 65536, minLength := none,
                             data := hd, isEnd := false, endDone := false }),
                ("metadata", { rid := 2, offset := mo, length := 65536, minLength := none,
                               data := [], isEnd := false, endDone := false })],
    nextRid := 3, finished := false, checks := ["null"], qcowInfo := none, descText := none,
    vmdkType := formatNotFound }

theorem lemma_farIdent : farIdent.complete = true ∧ farIdent.data.length ≤ farIdent.length ∧
    farIdent.isEnd = false ∧ farIdent.endDone = false ∧ farIdent.rid = 0 ∧ farIdent.length = 32 := by decide

theorem lemma_farMeta_good (hd : Bytes) (hh : hd.length = 65536) (t mo : Nat) : Good2 (farMetaState hd t mo) := by
  have hal : "ident" ∈ allowed .vhdx ∧ "header" ∈ allowed .vhdx ∧ "metadata" ∈ allowed .vhdx := by decide
  have hcap : 32 ≤ cap .vhdx "ident" ∧ 65536 ≤ cap .vhdx "header" ∧ 65536 ≤ cap .vhdx "metadata" := by decide
  have hnd : (["ident", "header", "metadata"] : List String).Nodup := by decide
  obtain ⟨_, hil, hiE, hiD, hir, hilen⟩ := lemma_farIdent
  refine ⟨rfl, ?_, ⟨hnd, ?_⟩, ?_, ?_⟩
  · intro p hp
    simp only [farMetaState, List.mem_cons, List.not_mem_nil, or_false] at hp
    rcases hp with rfl | rfl | rfl
    · exact hiD
    · rfl
    · rfl
  · intro p hp
    simp only [farMetaState, List.mem_cons, List.not_mem_nil, or_false] at hp
    rcases hp with rfl | rfl | rfl
    · exact ⟨hal.1, hil, by rw [hilen]; exact hcap.1, fun h => by rw [hiE] at h; simp at h⟩
    · exact ⟨hal.2.1, by simp [hh], hcap.2.1, by simp⟩
    · exact ⟨hal.2.2, by simp, hcap.2.2, by simp⟩
  · intro p hp
    simp only [farMetaState, List.mem_cons, List.not_mem_nil, or_false] at hp
    rcases hp with rfl | rfl | rfl
    · show farIdent.rid < 3; rw [hir]; omega
    · show 1 < 3; omega
    · show 2 < 3; omega
  · simp [postProcess, vhdxPostProcess, farMetaState, Insp.region, Insp.hasRegion, lookupR,
      vhdxFindMetaEntry, bind, Except.bind, pure, Except.pure]

theorem lemma_farMeta_skippable (hd : Bytes) (hh : hd.length = 65536) (t mo n : Nat)
    (h : n = 0 ∨ t + n ≤ mo ∨ mo + 65536 < t) : skippable (farMetaState hd t mo) n = true := by
  simp only [skippable, farMetaState, List.all_cons, List.all_nil, Bool.and_true, Bool.and_eq_true]
  refine ⟨(lemma_regionSkips_iff _ _ _).mpr ⟨lemma_farIdent.2.2.1, Or.inl lemma_farIdent.1⟩,
    (lemma_regionSkips_iff _ _ _).mpr ⟨rfl, Or.inl ?_⟩, (lemma_regionSkips_iff _ _ _).mpr ⟨rfl, Or.inr h⟩⟩
  simp [Region.complete, hh]

theorem lemma_farMeta_not_skippable (hd : Bytes) (t mo n : Nat)
    (h : 0 < n ∧ mo < t + n ∧ t ≤ mo + 65536) : skippable (farMetaState hd t mo) n = false := by
  cases hs : skippable (farMetaState hd t mo) n
  · rfl
  · exfalso
    simp only [skippable, farMetaState, List.all_cons, List.all_nil, Bool.and_true, Bool.and_eq_true] at hs
    obtain ⟨_, hr⟩ := (lemma_regionSkips_iff _ _ _).mp hs.2.2
    rcases hr with hr | hr
    · simp [Region.complete] at hr
    · simp only at hr
      omega

/-- header complete, metadata region created at 8 GiB, 256 KiB streamed: the next 1 MiB — any
    bytes — is skippable, `eat_chunk` only moves `_total_count`, and `eatSkip` says so -/
example (hd : Bytes) (hh : hd.length = 65536) (c : Bytes) (hc : c.length = 1048576) :
    skippable (farMetaState hd 262144 8589934592) 1048576 = true ∧
    eatChunk (farMetaState hd 262144 8589934592) c = (farMetaState hd (262144 + 1048576) 8589934592, none) ∧
    eatSkip (farMetaState hd 262144 8589934592) 1048576 = some (farMetaState hd (262144 + 1048576) 8589934592) := by
  have hsk := lemma_farMeta_skippable hd hh 262144 8589934592 1048576 (by omega)
  refine ⟨hsk, ?_⟩
  -- the second conjunct follows from the third by `eatSkip_sound`
  rw [and_iff_right_of_imp
    (fun h3 => (eatSkip_sound _ _ _ (lemma_farMeta_good hd hh 262144 8589934592) h3).1 c hc), eatSkip, if_pos hsk]
  rfl

/-- … and the whole run right up to the region's first byte (8 GiB − 256 KiB bytes) is skippable -/
example (hd : Bytes) (hh : hd.length = 65536) :
    skippable (farMetaState hd 262144 8589934592) (8589934592 - 262144) = true :=
  lemma_farMeta_skippable hd hh _ _ _ (by omega)

/-- … but a 1 MiB run that reaches into the metadata region's window is not: `eatSkip` refuses -/
example (hd : Bytes) :
    skippable (farMetaState hd (8589934592 - 524288) 8589934592) 1048576 = false ∧
    eatSkip (farMetaState hd (8589934592 - 524288) 8589934592) 1048576 = none := by
  have hsk := lemma_farMeta_not_skippable hd (8589934592 - 524288) 8589934592 1048576 (by omega)
  exact ⟨hsk, by simp [eatSkip, hsk]⟩

/-- the hypothesis is needed: on a fresh qcow2 inspector one byte is not skippable, and its value
    does change the result -/
example : (Insp.init .qcow2).map (fun s => (skippable s 1, decide (eatChunk s [0] = eatChunk s [1]))) =
    some (false, false) := by decide

end Oslo.Insp
