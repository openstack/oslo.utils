/-
C13 — StopWatch obeys its state machine under every call sequence.

Property theorems; `step_WF`, `init_WF`, `exec_WF` and `step_splitsInv` are the steps of the two
invariant arguments, the other helpers are `lemma_…`.  Every theorem quantifies over all
clocks `c : Nat → Int`, all watches / all call sequences `ops : List Op`, all
durations.
-/
import OsloProofs.Lemmas.C13
namespace Oslo.StopWatch

theorem lemma_doStart_WF (c : Nat → Int) (w : Watch) (h : WF w) : WF (doStart c w) := by
  unfold doStart; split
  · exact h
  · exact ⟨fun _ => rfl, nofun⟩

theorem lemma_doStop_WF (c : Nat → Int) (w : Watch) (h : WF w) : WF (doStop c w).1 := by
  rw [doStop_eq]; dsimp only; split
  · exact ⟨nofun, fun _ => ⟨h.1 ‹_›, rfl⟩⟩
  · exact h

theorem lemma_doElapsed_WF (c : Nat → Int) (w : Watch) (m : Option Int) (h : WF w) :
    WF (doElapsed c w m).1 := by
  obtain ⟨r, _, he⟩ := doElapsed_fst c w m
  rw [he]; exact h

theorem step_WF (c : Nat → Int) (w : Watch) (op : Op) (h : WF w) : WF (step c w op).1 := by
  rcases step_fst_cases c w op with rfl | rfl | rfl | rfl | rfl | rfl | ⟨r, sps, _, _, he⟩
  · exact lemma_doStart_WF c w h
  · exact lemma_doStart_WF c w h
  · refine lemma_doStart_WF c _ ?_
    split
    · exact lemma_doStop_WF c w h
    · exact h
  · exact lemma_doStop_WF c w h
  · exact lemma_doStop_WF c w h
  · rw [step_resume_fst]; split
    · exact ⟨fun _ => (h.2 ‹_›).1, nofun⟩
    · exact h
  · rw [he]; exact h

theorem init_WF (d : Option Int) : WF (init d) := by simp [WF, init]

/-- every watch reachable from a fresh one by any call sequence is well formed -/
theorem exec_WF (c : Nat → Int) (d : Option Int) (ops : List Op) : WF (exec c (init d) ops) :=
  exec_invariant c (step_WF c) ops _ (init_WF d)

/-- the model's `TypeError` outcome (arithmetic on `None`) is unreachable -/
theorem reachable_no_typeError (c : Nat → Int) (w : Watch) (op : Op) (h : WF w) :
    (step c w op).2 ≠ .typeError := by
  by_cases hi : Illegal w op
  · rw [step_illegal c w hi]; nofun
  · exact (step_legal c w hi).2 h

/-- elapsed time is never negative (whatever the clock does, whatever maximum is asked) -/
theorem elapsed_nonneg (c : Nat → Int) (w : Watch) (m : Option Int) (v : Int)
    (h : (step c w (.elapsed m)).2 = .num v) : 0 ≤ v := by
  obtain ⟨e, h0, rfl, _⟩ := doElapsed_num c w h
  exact clamp_nonneg m e h0

/-- while running, elapsed is the clock distance from the recorded start to now (clamped at 0) -/
theorem elapsed_running (c : Nat → Int) (w : Watch) (s : Int)
    (hs : w.state = .started) (ha : w.startedAt = some s) :
    (step c w (.elapsed none)).2 = .num (max 0 (c w.reads - s)) :=
  congrArg Prod.snd (doElapsed_started c w none s hs ha)

/-- while stopped, elapsed is the distance from the recorded start to the stop instant -/
theorem elapsed_stopped (c : Nat → Int) (w : Watch) (s e : Int)
    (hs : w.state = .stopped) (ha : w.startedAt = some s) (hb : w.stoppedAt = some e) :
    (step c w (.elapsed none)).2 = .num (max 0 (e - s)) :=
  congrArg Prod.snd (doElapsed_stopped c w none s e hs ha hb)

/-- a (re)start that takes effect records the clock reading made by that call … -/
theorem start_records_now (c : Nat → Int) (w : Watch) (h : w.state ≠ .started) :
    (step c w .start).1.startedAt = some (c w.reads) ∧ (step c w .start).1.state = .started := by
  simp [step, doStart, h]

theorem restart_records_now (c : Nat → Int) (w : Watch) :
    (step c w .restart).1.state = .started ∧
    (step c w .restart).1.startedAt =
      some (c (if w.state = .started then w.reads + 1 else w.reads)) := by
  cases hs : w.state <;> simp [step, doStart, doStop, hs]

/-- … a stop that takes effect records its own reading … -/
theorem stop_records_now (c : Nat → Int) (w : Watch) (h : w.state = .started) :
    (step c w .stop).1.stoppedAt = some (c w.reads) ∧ (step c w .stop).1.state = .stopped ∧
    (step c w .stop).1.startedAt = w.startedAt := by
  simp [step_stop, doStop_eq, h]

/-- … and nothing but an effective (re)start ever changes the recorded start instant,
    so "recorded start" in `elapsed_running`/`elapsed_stopped` is the last (re)start. -/
theorem startedAt_changed_only_by_start (c : Nat → Int) (w : Watch) (op : Op)
    (h : (step c w op).1.startedAt ≠ w.startedAt) :
    (op = .start ∨ op = .enter ∨ op = .restart) := by
  rcases step_fst_cases c w op with rfl | rfl | rfl | rfl | rfl | rfl | ⟨r, sps, _, _, he⟩
  · exact .inl rfl
  · exact .inr (.inl rfl)
  · exact .inr (.inr rfl)
  · exact absurd (doStop_keeps c w).1 h
  · exact absurd (doStop_keeps c w).1 h
  · exact absurd (by rw [step_resume_fst]; split <;> rfl) h
  · exact absurd (by rw [he]) h

/-- the recorded stop instant is changed only by an effective stop or cleared by a (re)start -/
theorem stoppedAt_changed_only_by_stop_or_start (c : Nat → Int) (w : Watch) (op : Op)
    (h : (step c w op).1.stoppedAt ≠ w.stoppedAt) :
    (op = .start ∨ op = .enter ∨ op = .restart ∨ op = .stop ∨ op = .exit) := by
  rcases step_fst_cases c w op with rfl | rfl | rfl | rfl | rfl | rfl | ⟨r, sps, _, _, he⟩
  · exact .inl rfl
  · exact .inr (.inl rfl)
  · exact .inr (.inr (.inl rfl))
  · exact .inr (.inr (.inr (.inl rfl)))
  · exact .inr (.inr (.inr (.inr rfl)))
  · exact absurd (by rw [step_resume_fst]; split <;> rfl) h
  · exact absurd (by rw [he]) h

/-- elapsed never exceeds a requested maximum (a negative maximum yields 0) -/
theorem elapsed_max (c : Nat → Int) (w : Watch) (m v : Int)
    (h : (step c w (.elapsed (some m))).2 = .num v) : v ≤ max 0 m := by
  obtain ⟨e, _, rfl, _⟩ := doElapsed_num c w h
  exact clamp_le m e

/-- … and equals the unclamped value whenever that does not exceed the maximum -/
theorem elapsed_max_exact (c : Nat → Int) (w : Watch) (m v : Int)
    (h : (step c w (.elapsed none)).2 = .num v) (hv : v ≤ m) :
    (step c w (.elapsed (some m))).2 = .num v := by
  obtain ⟨e, _, hve, he⟩ := doElapsed_num c w h
  have hve : v = e := hve
  rw [hve] at hv ⊢
  exact (he (some m)).trans (congrArg Out.num (clamp_of_le m e hv))

theorem leftover_eq (c : Nat → Int) (w : Watch) (d e : Int) (rn : Bool)
    (hs : w.state = .started) (hd : w.duration = some d)
    (he : (step c w (.elapsed none)).2 = .num e) :
    (step c w (.leftover rn)).2 = .num (max 0 (d - e)) := by
  rw [step_leftover, if_neg (not_not_intro hs), hd]
  exact congrArg Prod.snd (bindElapsed_num he)

theorem leftover_no_duration (c : Nat → Int) (w : Watch) (rn : Bool)
    (hs : w.state = .started) (hd : w.duration = none) :
    (step c w (.leftover rn)) = (w, if rn then .noneVal else .runtimeError) := by
  simp [step, hs, hd]

theorem expired_iff (c : Nat → Int) (w : Watch) (d e : Int)
    (hd : w.duration = some d)
    (he : (step c w (.elapsed none)).2 = .num e) :
    (step c w .expired).2 = .bool (decide (e > d)) := by
  have hs : w.state ≠ .fresh := fun hs =>
    nomatch (congrArg Prod.snd (doElapsed_fresh c w none hs)).symm.trans he
  rw [step_expired, if_neg hs, hd]
  exact congrArg Prod.snd (bindElapsed_num he)

theorem expired_no_duration (c : Nat → Int) (w : Watch)
    (hs : w.state ≠ .fresh) (hd : w.duration = none) :
    (step c w .expired) = (w, .bool false) := by
  simp [step, hs, hd]

/-- every call that raises RuntimeError leaves the watch exactly as it was -/
theorem illegal_raises_unchanged (c : Nat → Int) (w : Watch) (op : Op)
    (h : (step c w op).2 = .runtimeError) : (step c w op).1 = w :=
  congrArg Prod.fst (step_illegal c w ((runtimeError_iff c w op).mp h))

/-- which calls are illegal in which state (on reachable watches; `runtimeError_iff` shows
    the same of every watch) -/
theorem illegal_iff (c : Nat → Int) (w : Watch) (op : Op) (hw : WF w) :
    (step c w op).2 = .runtimeError ↔
      (op = .stop ∧ w.state = .fresh) ∨
      (op = .resume ∧ w.state ≠ .stopped) ∨
      (op = .split ∧ w.state ≠ .started) ∨
      ((∃ m, op = .elapsed m) ∧ w.state = .fresh) ∨
      ((∃ rn, op = .leftover rn) ∧ w.state ≠ .started) ∨
      (op = .leftover false ∧ w.duration = none) ∨
      (op = .expired ∧ w.state = .fresh) := by
  rw [runtimeError_iff]
  cases op <;> simp [Illegal]

/-- elapsed values non-decreasing from `prev`, each length the difference to its predecessor -/
def Chain (prev : Int) : List Split → Prop
  | [] => True
  | sp :: rest => prev ≤ sp.elapsed ∧ sp.length = sp.elapsed - prev ∧ Chain sp.elapsed rest

def lastElapsed (prev : Int) (l : List Split) : Int :=
  match l.getLast? with
  | some s => s.elapsed
  | none => prev

theorem lemma_chain_append (prev : Int) (l : List Split) (sp : Split) :
    Chain prev (l ++ [sp]) ↔
      Chain prev l ∧ lastElapsed prev l ≤ sp.elapsed ∧ sp.length = sp.elapsed - lastElapsed prev l := by
  induction l generalizing prev with
  | nil => simp [Chain, lastElapsed]
  | cons a l ih =>
    have hl : lastElapsed prev (a :: l) = lastElapsed a.elapsed l := by
      cases l with
      | nil => simp [lastElapsed]
      | cons b l =>
        simp only [lastElapsed, List.getLast?_cons_cons]
        cases h : (b :: l).getLast? with
        | none => simp at h
        | some x => rfl
    simp only [List.cons_append, Chain, ih, hl]
    constructor
    · rintro ⟨h1, h2, h3, h4, h5⟩; exact ⟨⟨h1, h2, h3⟩, h4, h5⟩
    · rintro ⟨⟨h1, h2, h3⟩, h4, h5⟩; exact ⟨h1, h2, h3, h4, h5⟩

def Monotone (c : Nat → Int) : Prop := ∀ i j, i ≤ j → c i ≤ c j

/-- invariant under a monotone clock: the splits form a chain from 0 and none of them
    exceeds what `elapsed` will report at any later clock read -/
def SplitsInv (c : Nat → Int) (w : Watch) : Prop :=
  Chain 0 w.splits ∧
  (w.splits ≠ [] → ∃ s, w.startedAt = some s ∧
      ∀ sp ∈ w.splits, ∀ r, w.reads ≤ r → sp.elapsed ≤ delta s (c r))

theorem lemma_inv_reads (c : Nat → Int) (w : Watch) (r : Nat) (hr : w.reads ≤ r)
    (h : SplitsInv c w) : SplitsInv c { w with reads := r } := by
  obtain ⟨h1, h2⟩ := h
  refine ⟨h1, fun hne => ?_⟩
  obtain ⟨s, hs, hall⟩ := h2 hne
  exact ⟨s, hs, fun sp hsp r' hr' => hall sp hsp r' (Nat.le_trans hr hr')⟩

theorem lemma_doStart_inv (c : Nat → Int) (w : Watch) (h : SplitsInv c w) :
    SplitsInv c (doStart c w) := by
  unfold doStart; split
  · exact h
  · exact ⟨trivial, fun hne => absurd rfl hne⟩

theorem lemma_doStop_inv (c : Nat → Int) (w : Watch) (h : SplitsInv c w) :
    SplitsInv c (doStop c w).1 := by
  rw [doStop_eq]; dsimp only; split
  · exact lemma_inv_reads c w _ (Nat.le_succ _) h
  · exact h

/-- a new split continues the chain: under a monotone clock the reading it records is at least
    the last recorded one, and no later reading falls below it -/
theorem lemma_split_inv (c : Nat → Int) (hc : Monotone c) (w : Watch) (h : SplitsInv c w) :
    SplitsInv c (step c w .split).1 := by
  rw [step_split]
  by_cases hst : w.state = .started
  case neg => rw [if_neg hst]; exact h
  rw [if_pos hst]
  cases ha : w.startedAt with
  | none =>
    have he : doElapsed c w none = ({ w with reads := w.reads + 1 }, .typeError) := by
      simp only [doElapsed, hst, ha]
    rw [he]
    exact lemma_inv_reads c w _ (Nat.le_succ _) h
  | some s =>
    rw [doElapsed_started c w none s hst ha]
    obtain ⟨h1, h2⟩ := h
    have hall : ∀ sp ∈ w.splits, ∀ r, w.reads ≤ r → sp.elapsed ≤ delta s (c r) := by
      intro sp hsp
      obtain ⟨s', hs', hall⟩ := h2 (List.ne_nil_of_mem hsp)
      cases ha.symm.trans hs'
      exact hall sp hsp
    refine ⟨?_, fun _ => ⟨s, ha, ?_⟩⟩
    · show Chain 0 (w.splits ++ [_])
      rw [lemma_chain_append]
      refine ⟨h1, ?_⟩
      cases hl : w.splits.getLast? with
      | none =>
        simp only [lastElapsed, hl, clamp, delta]
        constructor <;> omega
      | some last =>
        have := hall last (List.mem_of_getLast? hl) w.reads (Nat.le_refl _)
        simp only [lastElapsed, hl, clamp, delta] at this ⊢
        constructor <;> omega
    · intro sp hsp r hr
      rcases List.mem_append.mp hsp with hsp | hsp
      · exact hall sp hsp r (Nat.le_of_succ_le hr)
      · cases List.mem_singleton.mp hsp
        have := hc w.reads r (Nat.le_of_succ_le hr)
        simp only [clamp, delta]
        omega

theorem step_splitsInv (c : Nat → Int) (hc : Monotone c) (w : Watch) (op : Op)
    (h : SplitsInv c w) : SplitsInv c (step c w op).1 := by
  rcases step_fst_cases c w op with rfl | rfl | rfl | rfl | rfl | rfl | ⟨r, sps, hr, hs, he⟩
  · exact lemma_doStart_inv c w h
  · exact lemma_doStart_inv c w h
  · refine lemma_doStart_inv c _ ?_
    split
    · exact lemma_doStop_inv c w h
    · exact h
  · exact lemma_doStop_inv c w h
  · exact lemma_doStop_inv c w h
  · rw [step_resume_fst]; split <;> exact h
  · rcases hs with rfl | rfl
    · exact lemma_split_inv c hc w h
    · rw [he]; exact lemma_inv_reads c w r hr h

/-- **Splits** — after any call sequence under a monotone clock, the recorded splits have
    non-decreasing elapsed values (starting at ≥ 0) and each length is the difference to the
    previous split (the first one's length is its elapsed value). -/
theorem splits_chain (c : Nat → Int) (hc : Monotone c) (d : Option Int) (ops : List Op) :
    Chain 0 (exec c (init d) ops).splits :=
  (exec_invariant c (step_splitsInv c hc) ops (init d) ⟨trivial, fun h => absurd rfl h⟩).1

/-- a (re)start that takes effect clears the splits -/
theorem start_clears_splits (c : Nat → Int) (w : Watch) (h : w.state ≠ .started) :
    (step c w .start).1.splits = [] := by
  simp [step, doStart, h]

theorem restart_clears_splits (c : Nat → Int) (w : Watch) :
    (step c w .restart).1.splits = [] := by
  cases hs : w.state <;> simp [step, doStart, doStop, hs]

/-- only `split` adds a split and only an effective (re)start removes any -/
theorem splits_changed_only_by (c : Nat → Int) (w : Watch) (op : Op)
    (h : (step c w op).1.splits ≠ w.splits) :
    op = .start ∨ op = .enter ∨ op = .restart ∨ op = .split := by
  rcases step_fst_cases c w op with rfl | rfl | rfl | rfl | rfl | rfl | ⟨r, sps, _, hs, he⟩
  · exact .inl rfl
  · exact .inr (.inl rfl)
  · exact .inr (.inr (.inl rfl))
  · exact absurd (doStop_keeps c w).2 h
  · exact absurd (doStop_keeps c w).2 h
  · exact absurd (by rw [step_resume_fst]; split <;> rfl) h
  · rcases hs with rfl | rfl
    · exact .inr (.inr (.inr rfl))
    · exact absurd (by rw [he]) h

/-! ### the context-manager protocol

`__exit__(type, value, tb)` is one operation of the model whatever exception is in flight: the
driver maps `exit:<ExceptionType>` to `.exit`, and the correspondence runs the real `__exit__`
with exceptions of several kinds (KeyboardInterrupt, SystemExit, GeneratorExit, Exception
subclasses, a custom BaseException). -/

/-- leaving the `with` block never raises, never leaves the watch running, and freezes the
    elapsed time at the exit instant when the watch was running -/
theorem exit_stops (c : Nat → Int) (w : Watch) :
    (step c w .exit).2 = .noneVal ∧ (step c w .exit).1.state ≠ .started ∧
    (w.state = .started → (step c w .exit).1.state = .stopped ∧
      (step c w .exit).1.stoppedAt = some (c w.reads)) ∧
    (w.state ≠ .started → (step c w .exit).1 = w) := by
  cases hs : w.state <;> simp [step, doStop_eq, hs]

/-- entering the `with` block is `start` -/
theorem enter_is_start (c : Nat → Int) (w : Watch) : step c w .enter = step c w .start := by
  simp [step]

/-! ### non-vacuity: a concrete reachable watch meeting the hypotheses above -/

example :
    let c : Nat → Int := fun i => 10 * i
    let w := exec c (init (some 25)) [.start, .split, .split, .stop, .resume, .split]
    w.state = .started ∧ w.startedAt = some 0 ∧ w.splits = [⟨10, 10⟩, ⟨20, 10⟩, ⟨40, 20⟩] ∧
    (step c w .expired).2 = .bool true ∧ (step c w (.leftover false)).2 = .num 0 := by
  decide

example : Monotone (fun i => (10 * i : Int)) := by
  intro i j h; simp; omega

end Oslo.StopWatch
