/-
C12 — time normalisation, overridden-clock comparison and marshalling are exact.

Property theorems only (helpers are `lemma_…`).  Everything quantifies over all
instants / offsets / seconds values / call sequences; nothing is bounded.

Reading of the property into statements (recorded interpretations):
* "the naive UTC instant it denotes" is `utcInstant d = loc - off`; the property
  ranges over datetimes whose UTC instant is itself representable
  (`InRange (utcInstant d)`); outside it `normalize_time` raises `OverflowError`
  (`normalize_out_of_range`) — it never returns a wrong value (`normalize_sound`).
* `seconds` is what `timedelta(seconds=…)` makes of it: whole microseconds,
  nearest, ties to even (`seconds_nearest`, `seconds_tie_even`, `seconds_exact`).
  `older_iff`/`newer_iff`/`soon_iff` state the comparison against that value for
  *every* rational `seconds`; `…_exact_partial` restate it against the rational
  itself (`now - t > s`), which needs the sub-microsecond part of `s` not to round up.
* the calendar, tz database, ISO-8601 parser and `timegm` are parameters
  (`cal`, `lookup`, the offset carried by `DT.aware`, `unixEpoch`): not theorems.
-/
import OsloModel.Time
namespace Oslo.Time

deriving instance DecidableEq for Except      -- only used by the concrete `example`s

/-- representable as a naive `datetime` -/
def InRange (x : Int) : Prop := 0 ≤ x ∧ x ≤ maxInstant

instance (x : Int) : Decidable (InRange x) := inferInstanceAs (Decidable (_ ∧ _))

theorem lemma_mkInstant_ok (x : Int) (h : InRange x) : mkInstant x = .ok x := by
  unfold mkInstant; exact if_pos h

theorem lemma_mkInstant_err (x : Int) (h : ¬ InRange x) : mkInstant x = .error .overflow := by
  unfold mkInstant; exact if_neg h

theorem lemma_normalize_cases (d : DT) :
    normalizeTime d = .ok (.naive (utcInstant d)) ∨ normalizeTime d = .error .overflow := by
  cases d with
  | naive l => exact .inl rfl
  | aware l o =>
    simp only [normalizeTime, utcInstant]
    by_cases h : InRange (l - o)
    · rw [lemma_mkInstant_ok _ h]; exact .inl rfl
    · rw [lemma_mkInstant_err _ h]; exact .inr rfl

/-- a naive datetime is returned as it is -/
theorem normalize_naive_unchanged (l : Int) : normalizeTime (.naive l) = .ok (.naive l) := rfl

/-- **normalize_time** maps every datetime whose UTC instant is representable — aware with any
    offset, or naive — to the naive datetime at exactly that instant. -/
theorem normalize_denotes (d : DT) (h : InRange (utcInstant d)) :
    normalizeTime d = .ok (.naive (utcInstant d)) := by
  cases d with
  | naive l => rfl
  | aware l o => simp only [normalizeTime, utcInstant] at *; rw [lemma_mkInstant_ok _ h]

/-- whatever `normalize_time` returns is naive and denotes the same instant as its argument -/
theorem normalize_sound (d d' : DT) (h : normalizeTime d = .ok d') :
    (∃ u, d' = .naive u) ∧ utcInstant d' = utcInstant d := by
  rcases lemma_normalize_cases d with hn | hn <;> cases hn.symm.trans h
  exact ⟨⟨_, rfl⟩, rfl⟩

/-- an aware datetime whose UTC instant is not representable makes `normalize_time` raise
    `OverflowError` (e.g. `datetime.max` at offset -01:00) -/
theorem normalize_out_of_range (l o : Int) (h : ¬ InRange (l - o)) :
    normalizeTime (.aware l o) = .error .overflow := by
  simp only [normalizeTime]; rw [lemma_mkInstant_err _ h]

example : InRange (utcInstant (.aware 63000000000000000 (-86340000000))) := by decide
example : normalizeTime (.aware 63000000000000000 (-86340000000)) = .ok (.naive 63000086340000000) := by
  decide
example : ¬ InRange (maxInstant - (-3600000000)) := by decide

theorem lemma_rhe_cases (n : Int) (d : Nat) :
    (roundHalfEven n d = n / (d : Int) ∧ 2 * (n % (d : Int)) ≤ d) ∨
    (roundHalfEven n d = n / (d : Int) + 1 ∧ (d : Int) ≤ 2 * (n % (d : Int))) := by
  unfold roundHalfEven
  simp only
  split
  · exact .inl ⟨rfl, by omega⟩
  · split
    · exact .inr ⟨rfl, by omega⟩
    · split
      · exact .inl ⟨rfl, by omega⟩
      · exact .inr ⟨rfl, by omega⟩

/-- the microsecond count is a nearest integer to `s · 10⁶`:  |us·den − num·10⁶| ≤ den/2 -/
theorem seconds_nearest (n : Int) (d : Nat) (hd : 0 < d) :
    2 * ((d : Int) * roundHalfEven n d - n) ≤ d ∧ -(d : Int) ≤ 2 * ((d : Int) * roundHalfEven n d - n) := by
  have h1 : n % (d : Int) + (d : Int) * (n / (d : Int)) = n := Int.emod_add_mul_ediv n d
  have hnn : 0 ≤ n % (d : Int) := Int.emod_nonneg n (by omega)
  have hlt : n % (d : Int) < d := Int.emod_lt_of_pos n (by omega)
  rcases lemma_rhe_cases n d with ⟨h, h2⟩ | ⟨h, h2⟩ <;> rw [h]
  · constructor <;> omega
  · rw [Int.mul_add]; constructor <;> omega

/-- an exact tie (… .5 µs) goes to the even microsecond -/
theorem seconds_tie_even (n : Int) (d : Nat) (h : 2 * (n % (d : Int)) = d) :
    roundHalfEven n d % 2 = 0 := by
  unfold roundHalfEven
  simp only
  rw [if_neg (by omega), if_neg (by omega)]
  split <;> omega

theorem lemma_rhe_exact (m : Int) (d : Nat) (hd : 0 < d) : roundHalfEven (m * (d : Int)) d = m := by
  have hq : (m * (d : Int)) / (d : Int) = m := Int.mul_ediv_cancel m (by omega)
  have hm : (m * (d : Int)) % (d : Int) = 0 := Int.mul_emod_left m d
  unfold roundHalfEven; simp only [hq, hm]; exact if_pos (by omega)

/-- a whole number of microseconds is converted exactly -/
theorem seconds_exact (s : Secs) (m : Int) (h : s.num * 1000000 = m * s.den)
    (hr : tdMin ≤ m ∧ m ≤ tdMax) : usOfSeconds s = .ok m := by
  unfold usOfSeconds
  simp only [h, lemma_rhe_exact m s.den s.pos]
  exact if_pos hr

/-- outside timedelta's range the conversion raises `OverflowError` -/
theorem seconds_overflow (s : Secs)
    (h : ¬ (tdMin ≤ roundHalfEven (s.num * 1000000) s.den ∧ roundHalfEven (s.num * 1000000) s.den ≤ tdMax)) :
    usOfSeconds s = .error .overflow := by
  unfold usOfSeconds; simp only; rw [if_neg h]

example : usOfSeconds ⟨3, 2, by decide⟩ = .ok 1500000 := by decide
example : usOfSeconds ⟨-1, 128, by decide⟩ = .ok (-7812) := by decide     -- -7812.5 → even
example : usOfSeconds ⟨3, 128, by decide⟩ = .ok 23438 := by decide        -- 23437.5 → even
example : usOfSeconds ⟨100000000000000, 1, by decide⟩ = .error .overflow := by decide

/-- an op that neither installs nor removes the override -/
def Quiet : Op → Prop
  | .set _ => False
  | .clear => False
  | .fxSetUp _ => False
  | .fxCleanUp => False
  | _ => True

/-- an op that only reads the clock -/
def IsRead : Op → Prop
  | .utcnow _ | .utcnowTs _ | .older _ _ | .newer _ _ | .soon _ _ => True
  | _ => False

/-- the microseconds an op asks the clock to move by (0 for everything that is not an
    advance, and for an `advance_time_seconds` whose argument `timedelta` rejects) -/
def amount : Op → Int
  | .advDelta d => d
  | .advSeconds s => match usOfSeconds s with | .ok w => w | .error _ => 0
  | .fxAdvDelta d => d
  | .fxAdvSeconds s => match usOfSeconds s with | .ok w => w | .error _ => 0
  | _ => 0

def total (ops : List Op) : Int := (ops.map amount).sum

/-- every intermediate reading stays representable -/
def PrefixOk (c : Int) : List Op → Prop
  | [] => True
  | op :: ops => InRange (c + amount op) ∧ PrefixOk (c + amount op) ops

/-- **override**: once set to `t`, `utcnow()` returns `t` (whatever `with_timezone`), whatever
    the clock held before … -/
theorem override_now (st : Clock) (t : Int) (f : Bool) :
    step (step st (.set t)).1 (.utcnow f) = (some t, .instant t) := rfl

/-- … and `utcnow_ts()` returns the whole seconds of `t` since 1970-01-01 (floor), or with
    `microsecond=True` exactly `(t - epoch) / 10⁶` -/
theorem override_now_ts (st : Clock) (t : Int) :
    step (step st (.set t)).1 (.utcnowTs true) = (some t, .tsMicro (t - unixEpoch)) ∧
    ∃ n, step (step st (.set t)).1 (.utcnowTs false) = (some t, .tsInt n) ∧
      1000000 * n ≤ t - unixEpoch ∧ t - unixEpoch < 1000000 * n + 1000000 := by
  refine ⟨rfl, (t - unixEpoch) / 1000000, rfl, ?_, ?_⟩ <;> omega

/-- reading never moves the clock (so a single override instant is returned again and again) -/
theorem read_unchanged (st : Clock) (op : Op) (h : IsRead op) : (step st op).1 = st := by
  cases op
  case utcnow | utcnowTs | older | newer | soon => cases st <;> rfl
  all_goals exact absurd h id

/-- one `advance_time_delta` moves the clock by exactly `d` -/
theorem advance_delta_exact (c d : Int) (h : InRange (c + d)) :
    step (some c) (.advDelta d) = (some (c + d), .none) := by
  simp only [step, advance]; rw [lemma_mkInstant_ok _ h]

/-- one `advance_time_seconds` moves it by exactly `timedelta(seconds=s)` (negative `s` moves
    it back) -/
theorem advance_seconds_exact (c : Int) (s : Secs) (w : Int) (hw : usOfSeconds s = .ok w)
    (h : InRange (c + w)) :
    step (some c) (.advSeconds s) = (some (c + w), .none) := by
  simp only [step, advanceSeconds, advance, hw]; rw [lemma_mkInstant_ok _ h]

/-- an advance that would leave the representable range raises `OverflowError` and leaves the
    clock where it was -/
theorem advance_overflow_unchanged (c d : Int) (h : ¬ InRange (c + d)) :
    step (some c) (.advDelta d) = (some c, .err .overflow) := by
  simp only [step, advance]; rw [lemma_mkInstant_err _ h]

theorem lemma_exec_append (st : Clock) (pre ops : List Op) :
    exec st (pre ++ ops) = exec (exec st pre) ops :=
  List.foldl_append

/-- **TimeFixture** has no time of its own: `setUp` is `set_time_override(constructor instant)`, the
    clean-up is `clear_time_override()`, and its two advance methods are the two `timeutils` ones — on
    every state of the cell, so the two entry points can be mixed freely on one override. -/
theorem fixture_ops_are_cell_ops (st : Clock) (t d : Int) (s : Secs) :
    step st (.fxSetUp t) = step st (.set t) ∧ step st .fxCleanUp = step st .clear ∧
    step st (.fxAdvDelta d) = step st (.advDelta d) ∧
    step st (.fxAdvSeconds s) = step st (.advSeconds s) := ⟨rfl, rfl, rfl, rfl⟩

/-- a fixture set up again (after its clean-up, or over another fixture) starts from its
    constructor's instant, whatever was advanced before -/
theorem fixture_setup_again (st : Clock) (pre : List Op) (t : Int) (f : Bool) :
    step (exec st (pre ++ [.fxSetUp t])) (.utcnow f) = (some t, .instant t) := by
  rw [lemma_exec_append]; rfl

/-- advancing without an override fails the `assert` and changes nothing -/
theorem advance_without_override (d : Int) :
    step none (.advDelta d) = (none, .err .assertion) := rfl

theorem lemma_step_quiet (c : Int) (op : Op) (hq : Quiet op) (hr : InRange (c + amount op)) :
    (step (some c) op).1 = some (c + amount op) := by
  cases op with
  | set _ | clear | fxSetUp _ | fxCleanUp => exact absurd hq id
  | advDelta d | fxAdvDelta d => exact congrArg Prod.fst (advance_delta_exact c d hr)
  | advSeconds s | fxAdvSeconds s =>
    cases hw : usOfSeconds s with
    | ok w =>
      simp only [amount, hw] at hr ⊢
      exact congrArg Prod.fst (advance_seconds_exact c s w hw hr)
    | error e => simp [step, advanceSeconds, amount, hw]
  | utcnow _ | utcnowTs _ | older _ _ | newer _ _ | soon _ _ => exact congrArg some (Int.add_zero c).symm

/-- **advance_exact** — after *any* sequence of advances (by timedelta or by seconds, forwards
    or backwards, through `timeutils` or through a `TimeFixture`, in any mixture) interleaved with
    any reads, the clock holds `t₀ + Σ dᵢ`. -/
theorem advance_exact (c : Int) (ops : List Op) (hq : ∀ op ∈ ops, Quiet op) (hp : PrefixOk c ops) :
    exec (some c) ops = some (c + total ops) := by
  induction ops generalizing c with
  | nil => simp [exec, total]
  | cons op ops ih =>
    obtain ⟨h1, h2⟩ := hp
    have hs := lemma_step_quiet c op (hq op (List.mem_cons_self ..)) h1
    have := ih (c + amount op) (fun o ho => hq o (List.mem_cons_of_mem _ ho)) h2
    simp only [exec, List.foldl_cons, hs] at this ⊢
    rw [this]; simp only [total, List.map_cons, List.sum_cons]; congr 1; omega

/-- … and that is what the next `utcnow()` returns -/
theorem read_after_advances (c : Int) (ops : List Op) (f : Bool)
    (hq : ∀ op ∈ ops, Quiet op) (hp : PrefixOk c ops) :
    step (exec (some c) ops) (.utcnow f) = (some (c + total ops), .instant (c + total ops)) := by
  rw [advance_exact c ops hq hp]; rfl

/-- whatever happened before `set_time_override(t)` is forgotten -/
theorem override_after_any_history (st : Clock) (pre : List Op) (t : Int) (ops : List Op)
    (hq : ∀ op ∈ ops, Quiet op) (hp : PrefixOk t ops) :
    exec st (pre ++ .set t :: ops) = some (t + total ops) := by
  rw [lemma_exec_append]
  exact advance_exact t ops hq hp

/-- after `clear_time_override()` (the fixture's clean-up) every read goes to the real clock -/
theorem clear_restores_real_clock (st : Clock) (pre : List Op) (op : Op) (h : IsRead op) :
    step (exec st (pre ++ [.clear])) op = (none, .real) := by
  rw [lemma_exec_append]
  cases op
  case utcnow | utcnowTs | older | newer | soon => rfl
  all_goals exact absurd h id

example :
    let ops : List Op := [.advDelta 5, .utcnow false, .advSeconds ⟨-3, 2, by decide⟩,
                          .utcnowTs true, .advSeconds ⟨1, 128, by decide⟩, .advDelta (-1)]
    (∀ op ∈ ops, Quiet op) ∧ PrefixOk 62135596800000000 ops ∧ total ops = -1492184 ∧
    exec (some 62135596800000000) ops = some 62135596798507816 := by
  refine ⟨?_, ?_, ?_, ?_⟩
  · intro op h; simp only [List.mem_cons, List.not_mem_nil, or_false] at h
    rcases h with h | h | h | h | h | h <;> subst h <;> trivial
  · exact ⟨by decide, by decide, by decide, by decide, by decide, by decide, trivial⟩
  · decide
  · decide

/-- **is_older_than**(t, s) with the clock at `now`: true exactly when `now − t > timedelta(s)`
    (strict), for naive and aware `t` alike. -/
theorem older_iff (now : Int) (d : DT) (s : Secs) (w : Int)
    (hd : InRange (utcInstant d)) (hw : usOfSeconds s = .ok w) :
    isOlderThan now d s = .ok (decide (now - utcInstant d > w)) := by
  simp only [isOlderThan, normalize_denotes d hd, hw]

/-- **is_newer_than**(t, s): true exactly when `t − now > timedelta(s)` (strict). -/
theorem newer_iff (now : Int) (d : DT) (s : Secs) (w : Int)
    (hd : InRange (utcInstant d)) (hw : usOfSeconds s = .ok w) :
    isNewerThan now d s = .ok (decide (utcInstant d - now > w)) := by
  simp only [isNewerThan, normalize_denotes d hd, hw]

/-- **is_soon**(t, w): true exactly when `t ≤ now + timedelta(w)` (non-strict). -/
theorem soon_iff (now : Int) (d : DT) (s : Secs) (w : Int)
    (hd : InRange (utcInstant d)) (hw : usOfSeconds s = .ok w) (hs : InRange (now + w)) :
    isSoon now d s = .ok (decide (utcInstant d ≤ now + w)) := by
  simp only [isSoon, normalize_denotes d hd, hw, lemma_mkInstant_ok _ hs]

/-- through the state machine: the comparison reads the overridden instant -/
theorem compare_reads_override (c : Int) (t : DT) (s : Secs) :
    step (some c) (.older t s) = (some c, outOf (isOlderThan c t s)) ∧
    step (some c) (.newer t s) = (some c, outOf (isNewerThan c t s)) ∧
    step (some c) (.soon t s) = (some c, outOf (isSoon c t s)) := ⟨rfl, rfl, rfl⟩

/-- the only way a comparison fails is `OverflowError` (unrepresentable UTC instant, seconds
    beyond timedelta's range, `now + window` beyond `datetime.max`): never a naive/aware
    `TypeError`, never a wrong answer -/
theorem compare_errors_only_overflow (now : Int) (d : DT) (s : Secs) (e : Err) :
    (isOlderThan now d s = .error e → e = .overflow) ∧
    (isNewerThan now d s = .error e → e = .overflow) ∧
    (isSoon now d s = .error e → e = .overflow) := by
  -- each of the partial steps (`normalize_time`, `timedelta(seconds=…)`, `utcnow() + window`)
  -- either succeeds or fails with overflow; a comparison only passes such a failure on
  have hu : (∃ w, usOfSeconds s = .ok w) ∨ usOfSeconds s = .error .overflow := by
    unfold usOfSeconds; dsimp only
    exact if hr : _ then .inl ⟨_, if_pos hr⟩ else .inr (if_neg hr)
  refine ⟨fun h => ?_, fun h => ?_, fun h => ?_⟩
  · rcases lemma_normalize_cases d with hn | hn <;> rcases hu with ⟨w, hu⟩ | hu <;>
      simp only [isOlderThan, hn, hu] at h <;> cases h <;> rfl
  · rcases lemma_normalize_cases d with hn | hn <;> rcases hu with ⟨w, hu⟩ | hu <;>
      simp only [isNewerThan, hn, hu] at h <;> cases h <;> rfl
  · rcases hu with ⟨w, hu⟩ | hu
    · by_cases hs : InRange (now + w)
      · rcases lemma_normalize_cases d with hn | hn <;>
          simp only [isSoon, hn, hu, lemma_mkInstant_ok _ hs] at h <;> cases h <;> rfl
      · simp only [isSoon, hu, lemma_mkInstant_err _ hs] at h; cases h; rfl
    · simp only [isSoon, hu] at h; cases h; rfl

/-- `timedelta(seconds=s)` rounded `s` down (or `s` is a whole number of microseconds):
    `2·frac(s·10⁶) < 1`, or an exact tie whose floor is even -/
def RoundsDown (s : Secs) : Prop :=
  roundHalfEven (s.num * 1000000) s.den = (s.num * 1000000) / (s.den : Int)

instance (s : Secs) : Decidable (RoundsDown s) := inferInstanceAs (Decidable (_ = _))

theorem lemma_usOfSeconds_floor (s : Secs) (w : Int) (hw : usOfSeconds s = .ok w)
    (hr : RoundsDown s) : w = s.num * 1000000 / (s.den : Int) := by
  unfold usOfSeconds at hw; simp only at hw; split at hw
  · cases hw; exact hr
  · cases hw

/-- is_older_than against the *rational* `s` itself: `(now − t)/10⁶ > num/den`, written without
    division.  **Partial**: needs `RoundsDown s` — the sub-microsecond part of `s` is below ½ µs
    (always so for integers, whole microseconds, and binary64 noise such as 0.1).  When it rounds
    up the code compares with the next microsecond: see `older_iff` and the counterexample below. -/
theorem older_exact_partial (now : Int) (d : DT) (s : Secs) (w : Int)
    (hd : InRange (utcInstant d)) (hw : usOfSeconds s = .ok w) (hr : RoundsDown s) :
    isOlderThan now d s = .ok (decide ((now - utcInstant d) * (s.den : Int) > s.num * 1000000)) := by
  rw [older_iff now d s w hd hw, lemma_usOfSeconds_floor s w hw hr]
  exact congrArg Except.ok (decide_eq_decide.mpr (Int.ediv_lt_iff_lt_mul (Int.natCast_pos.mpr s.pos)))

/-- is_newer_than against the rational `s`: `(t − now)/10⁶ > num/den`.  **Partial**: as above. -/
theorem newer_exact_partial (now : Int) (d : DT) (s : Secs) (w : Int)
    (hd : InRange (utcInstant d)) (hw : usOfSeconds s = .ok w) (hr : RoundsDown s) :
    isNewerThan now d s = .ok (decide ((utcInstant d - now) * (s.den : Int) > s.num * 1000000)) := by
  rw [newer_iff now d s w hd hw, lemma_usOfSeconds_floor s w hw hr]
  exact congrArg Except.ok (decide_eq_decide.mpr (Int.ediv_lt_iff_lt_mul (Int.natCast_pos.mpr s.pos)))

/-- is_soon against the rational window: `(t − now)/10⁶ ≤ num/den`.  **Partial**: as above. -/
theorem soon_exact_partial (now : Int) (d : DT) (s : Secs) (w : Int)
    (hd : InRange (utcInstant d)) (hw : usOfSeconds s = .ok w) (hs : InRange (now + w))
    (hr : RoundsDown s) :
    isSoon now d s = .ok (decide ((utcInstant d - now) * (s.den : Int) ≤ s.num * 1000000)) := by
  rw [soon_iff now d s w hd hw hs, lemma_usOfSeconds_floor s w hw hr]
  refine congrArg Except.ok (decide_eq_decide.mpr ?_)
  rw [← Int.le_ediv_iff_mul_le (by have := s.pos; omega)]
  constructor <;> intro h <;> omega

/-- whole microseconds round down -/
theorem roundsDown_of_exact (s : Secs) (m : Int) (h : s.num * 1000000 = m * s.den) : RoundsDown s := by
  have := s.pos
  unfold RoundsDown
  rw [h, lemma_rhe_exact m s.den s.pos, Int.mul_ediv_cancel m (by omega)]

-- non-vacuity: the three boundaries, aware argument at offset +05:30, 2.5 s
example :
    let t : DT := .aware 63000019800000000 19800000000      -- UTC instant 63000000000000000
    let s : Secs := ⟨5, 2, by decide⟩
    InRange (utcInstant t) ∧ usOfSeconds s = .ok 2500000 ∧ RoundsDown s ∧
    isOlderThan 63000000002500000 t s = .ok false ∧ isOlderThan 63000000002500001 t s = .ok true ∧
    isNewerThan 62999999997500000 t s = .ok false ∧ isNewerThan 62999999997499999 t s = .ok true ∧
    isSoon 62999999997500000 t s = .ok true ∧ isSoon 62999999997499999 t s = .ok false := by
  decide

-- where the exact form is *not* what the code computes: now − t = 1 µs, s = 0.6 µs → False
example : isOlderThan 1 (.naive 0) ⟨6, 10000000, by decide⟩ = .ok false ∧
    (1 - 0 : Int) * 10000000 > 6 * 1000000 ∧ ¬ RoundsDown ⟨6, 10000000, by decide⟩ := by decide

theorem lemma_cap_valid (f : Fields) (hv : validFields f = true) :
    ({ f with second := min f.second 59 } : Fields) = f := by
  have hs : f.second ≤ 59 := by simp [validFields] at hv; omega
  rw [Int.min_eq_left hs]

theorem lemma_canonTz_utc (n : List Char) (hn : n = utcName ∨ n = utcPlus) :
    canonTz n = utcName := by
  rcases hn with rfl | rfl <;> decide

/-- **unmarshall_time ∘ marshall_now** is the identity on naive datetimes: all seven fields,
    the microsecond included, come back and the result is naive -/
theorem unmarshall_marshall_naive (lookup : List Char → Option Err) (f : Fields)
    (hv : validFields f = true) :
    unmarshall lookup (marshall ⟨f, none⟩) = .ok ⟨f, none⟩ := by
  simp only [unmarshall, marshall, lemma_cap_valid f hv, hv, if_true]

/-- … and on UTC datetimes, whether the tzinfo calls itself `UTC` or `UTC+00:00`: the fields come
    back attached to `ZoneInfo('UTC')` (that this zone has offset 0 is the tz database's) -/
theorem unmarshall_marshall_utc (lookup : List Char → Option Err) (f : Fields) (n : List Char)
    (hv : validFields f = true) (hn : n = utcName ∨ n = utcPlus) (hl : lookup utcName = none) :
    unmarshall lookup (marshall ⟨f, some (some n)⟩) = .ok ⟨f, some (some utcName)⟩ := by
  have hne : utcName ≠ [] := by decide
  simp only [unmarshall, marshall, lemma_cap_valid f hv, hv, if_true, lemma_canonTz_utc n hn,
    lemma_canonTz_utc utcName (.inl rfl), if_neg hne, hl]

/-- a leap second (or anything above 59) in a marshalled record is read as second 59,
    everything else — microsecond included — untouched -/
theorem leap_second_capped (lookup : List Char → Option Err) (f : Fields) (tz : Option (Option (List Char)))
    (sec : Int) (h : 59 ≤ sec) :
    unmarshall lookup ⟨{ f with second := sec }, tz⟩ = unmarshall lookup ⟨{ f with second := 59 }, tz⟩ := by
  have h1 : min sec 59 = 59 := by omega
  simp only [unmarshall, h1]; rfl

/-- what `unmarshall_time` returns has exactly the record's fields with the second capped -/
theorem unmarshall_fields (lookup : List Char → Option Err) (m : Marshalled) (s : Stamp)
    (h : unmarshall lookup m = .ok s) :
    s.f = { m.f with second := min m.f.second 59 } ∧ validFields s.f = true := by
  unfold unmarshall at h
  simp only at h
  split at h
  · next hv =>
    split at h
    · split at h
      · cases h; exact ⟨rfl, hv⟩
      · split at h
        · cases h; exact ⟨rfl, hv⟩
        · cases h
    · cases h; exact ⟨rfl, hv⟩
  · cases h

/-- marshalling what was unmarshalled gives the very same record again (naive and UTC): the pair is a
    fixed point, so a record can be unmarshalled, re-marshalled and passed on any number of times.
    (`unmarshall` is a function of the record alone: that the implementation neither keeps state nor
    changes the dict it is given is checked by the correspondence, which unmarshalls one dict repeatedly.) -/
theorem remarshall_fixpoint (lookup : List Char → Option Err) (f : Fields) (tz : Option (Option (List Char)))
    (hv : validFields f = true)
    (htz : tz = none ∨ ((tz = some (some utcName) ∨ tz = some (some utcPlus)) ∧ lookup utcName = none)) :
    (unmarshall lookup (marshall ⟨f, tz⟩)).map marshall = .ok (marshall ⟨f, tz⟩) := by
  rcases htz with rfl | ⟨h, hl⟩
  · rw [unmarshall_marshall_naive lookup f hv]; rfl
  · obtain ⟨n, rfl, hn⟩ : ∃ n, tz = some (some n) ∧ (n = utcName ∨ n = utcPlus) := by
      rcases h with rfl | rfl
      · exact ⟨_, rfl, .inl rfl⟩
      · exact ⟨_, rfl, .inr rfl⟩
    rw [unmarshall_marshall_utc lookup f n hv hn hl]
    simp only [Except.map, marshall, lemma_canonTz_utc n hn, lemma_canonTz_utc utcName (.inl rfl)]

/-- `marshall_now()` without an argument marshals the overridden instant (through the
    calendar `cal`), and unmarshalling gives its fields back -/
theorem marshall_now_override (cal : Int → Fields) (lookup : List Char → Option Err) (c : Int)
    (hv : validFields (cal c) = true) :
    marshallNow cal (some c) none = some (marshall ⟨cal c, none⟩) ∧
    unmarshall lookup (marshall ⟨cal c, none⟩) = .ok ⟨cal c, none⟩ :=
  ⟨rfl, unmarshall_marshall_naive lookup (cal c) hv⟩

example : validFields ⟨2016, 12, 31, 23, 59, 59, 999999⟩ = true := by decide
example : validFields ⟨2016, 12, 31, 23, 59, 60, 999999⟩ = false := by decide
example : unmarshall (fun _ => none) ⟨⟨2016, 12, 31, 23, 59, 60, 999999⟩, some (some utcPlus)⟩ =
    .ok ⟨⟨2016, 12, 31, 23, 59, 59, 999999⟩, some (some utcName)⟩ := by decide
example : unmarshall (fun _ => none) ⟨⟨2015, 2, 29, 0, 0, 0, 0⟩, none⟩ = .error .valueError := by decide

end Oslo.Time
