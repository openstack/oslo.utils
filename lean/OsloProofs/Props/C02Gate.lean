/-
C02 — the safety check is fail-closed.

The generic gate: `safety_check` returns normally only for a complete, matching stream on which
every registered check passed; a crashing check is a failure; every format registers a check.
The byte-level acceptance conditions per format are in `Props/C02.lean`, `C02More`, `C02Gpt`.
-/
import OsloModel.Wrapper
namespace Oslo.Insp

/-- **safety_ok_imp** — `safety_check()` returning normally implies the stream was captured
    completely, matches the format, and *every* registered check passed. -/
theorem safety_ok_imp (s : Insp) (h : safetyCheck s = .ok) :
    s.complete = true ∧ formatMatch s = .ok true ∧ ∀ n ∈ s.checks, runCheck s n = .pass := by
  unfold safetyCheck at h
  split at h
  · simp at h
  · rename_i hc
    split at h
    · simp at h
    · simp at h
    · rename_i hm
      dsimp only at h
      split at h
      · rename_i hf
        refine ⟨by simpa using hc, hm, fun n hn => ?_⟩
        simp only [List.isEmpty_iff, List.filter_eq_nil_iff] at hf
        simpa using hf n hn
      · simp at h

/-- conversely it does return normally in exactly that case -/
theorem safety_ok_iff (s : Insp) :
    safetyCheck s = .ok ↔
      (s.complete = true ∧ formatMatch s = .ok true ∧ ∀ n ∈ s.checks, runCheck s n = .pass) := by
  constructor
  · exact safety_ok_imp s
  · rintro ⟨hc, hm, hall⟩
    unfold safetyCheck
    simp only [hc, Bool.not_true, Bool.false_eq_true, if_false, hm]
    have : s.checks.filter (fun n => runCheck s n != .pass) = [] := by
      rw [List.filter_eq_nil_iff]
      intro n hn
      simp [hall n hn]
    simp [this]

/-- an incomplete stream is refused (ImageFormatError), never accepted -/
theorem incomplete_refused (s : Insp) (h : s.complete = false) : safetyCheck s = .refused := by
  simp [safetyCheck, h]

/-- a stream that does not match is refused -/
theorem mismatch_refused (s : Insp) (hc : s.complete = true) (h : formatMatch s = .ok false) :
    safetyCheck s = .refused := by
  simp [safetyCheck, hc, h]

/-- **check_error_is_failure** — a check whose body raises anything (modelled outcome `crashed`)
    or reports a violation makes `safety_check` fail with that check's name. -/
theorem check_error_is_failure (s : Insp) (n : String) (hn : n ∈ s.checks)
    (hc : s.complete = true) (hm : formatMatch s = .ok true) (hr : runCheck s n ≠ .pass) :
    ∃ names, safetyCheck s = .failed names ∧ n ∈ names := by
  unfold safetyCheck
  simp only [hc, Bool.not_true, Bool.false_eq_true, if_false, hm]
  have hmem : n ∈ s.checks.filter (fun n => runCheck s n != .pass) := by
    rw [List.mem_filter]
    exact ⟨hn, by simpa using hr⟩
  split
  · rename_i he
    simp only [List.isEmpty_iff] at he
    rw [he] at hmem
    simp at hmem
  · exact ⟨_, rfl, hmem⟩

/-- a check name this model does not know is never a pass -/
theorem unknown_check_fails (s : Insp) (n : String)
    (h : n ∉ ["null", "banned", "backing_file", "data_file", "unknown_features", "descriptor", "footer",
              "mbr", "version"]) : runCheck s n ≠ .pass := by
  simp only [List.mem_cons, List.not_mem_nil, or_false, not_or] at h
  obtain ⟨h1, h2, h3, h4, h5, h6, h7, h8, h9⟩ := h
  -- only the fall-through equation of `runCheck` applies to a variable name; its side conditions are
  -- that the name is none of the nine literals
  rw [runCheck]
  · exact fun h => CheckRes.noConfusion h
  all_goals (intros; subst_vars; contradiction)

/-- **inspector_has_check** — every format in the generated ALL_FORMATS initialises with at least
    one registered safety check -/
theorem inspector_has_check (f : Fmt) : ∃ s, Insp.init f = some s ∧ s.checks ≠ [] := by
  cases f <;> exact ⟨_, rfl, by decide⟩

/-- the checks each format registers (over the generated tables): the obligations that break when
    a check is dropped from the code -/
theorem registered_checks :
    Fmt.qcow2.initChecks = ["backing_file", "data_file", "unknown_features"] ∧
    Fmt.vmdk.initChecks = ["descriptor"] ∧ Fmt.qed.initChecks = ["banned"] ∧
    Fmt.gpt.initChecks = ["mbr"] ∧ Fmt.luks.initChecks = ["version"] ∧
    Fmt.raw.initChecks = ["null"] ∧ Fmt.vhd.initChecks = ["null"] ∧ Fmt.vhdx.initChecks = ["null"] ∧
    Fmt.vdi.initChecks = ["null"] ∧ Fmt.iso.initChecks = ["null"] :=
  ⟨rfl, rfl, rfl, rfl, rfl, rfl, rfl, rfl, rfl, rfl⟩

end Oslo.Insp
