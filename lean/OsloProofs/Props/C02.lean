/-
C02 — the safety check is fail-closed.  Part 2: byte-level acceptance characterisations.
(Part 1, the generic gate, is `OsloProofs/Props/C02Gate.lean`.)

The qcow2 and QED theorems are about the state an inspector is in after *any* chunking of the
stream (`runChunks`), by composition with the chunk-independence theorems of C01;
`null_check_accept_iff` holds of any inspector state, and the `cli_*` theorems are about the exit
status of the command-line checker (`detectFileFormat`).
-/
import OsloProofs.Props.C01
import OsloProofs.Lemmas.QcowCheck
namespace Oslo.Insp

/-- **qcow_accept_iff** — for every stream and every chunking, the qcow2 safety check returns
    normally iff the stream has 512 bytes, the magic, a zero backing-file offset, the data-file bit
    clear, and version 2, or version 3 with no incompatible-feature bit ≥ 4 set. -/
theorem qcow_accept_iff (s0 : Insp) (h0 : Insp.init .qcow2 = some s0) (chunks : List Bytes) :
    safetyCheck (runChunks s0 chunks).1 = .ok ↔ QcowSafe (sliceOf chunks.flatten 0 512) := by
  rw [run_qcow_eq_spec s0 h0, lemma_init_eq h0]
  exact lemma_qcow_state_accept _ { Region.fresh 0 0 512 none with data := sliceOf chunks.flatten 0 512 }
    rfl rfl rfl rfl rfl registered_checks.1 rfl

/-- a qcow2 with a backing file is never accepted -/
theorem qcow_rejects_backing (s0 : Insp) (h0 : Insp.init .qcow2 = some s0) (chunks : List Bytes)
    (h : beNat (slice (sliceOf chunks.flatten 0 512) 8 16) ≠ 0) :
    safetyCheck (runChunks s0 chunks).1 ≠ .ok := by
  rw [Ne, qcow_accept_iff s0 h0]
  rintro ⟨_, _, hb, _⟩
  exact h hb

/-- a qcow2 with the external-data-file bit is never accepted -/
theorem qcow_rejects_datafile (s0 : Insp) (h0 : Insp.init .qcow2 = some s0) (chunks : List Bytes)
    (b : UInt8) (hb : (sliceOf chunks.flatten 0 512)[79]? = some b) (h : b.toNat &&& 4 ≠ 0) :
    safetyCheck (runChunks s0 chunks).1 ≠ .ok := by
  rw [Ne, qcow_accept_iff s0 h0]
  rintro ⟨_, _, _, hd, _⟩
  exact h (hd b hb)

/-- a version-3 qcow2 with *any* incompatible-feature bit in [4, 64) set is never accepted
    (bits numbered as in the 64-bit big-endian feature word) -/
theorem qcow_rejects_unknown_bit (s0 : Insp) (h0 : Insp.init .qcow2 = some s0) (chunks : List Bytes)
    (bit : Nat) (hbit : 4 ≤ bit)
    (hv : beNat (slice (sliceOf chunks.flatten 0 512) 4 8) = 3)
    (h : (beNat (slice (sliceOf chunks.flatten 0 512) 72 80)).testBit bit = true) :
    safetyCheck (runChunks s0 chunks).1 ≠ .ok := by
  rw [Ne, qcow_accept_iff s0 h0]
  rintro ⟨_, _, _, _, hver⟩
  rcases hver with h2 | ⟨_, hlt⟩
  · omega
  · have := Nat.ge_two_pow_of_testBit h
    have : 2 ^ 4 ≤ 2 ^ bit := Nat.pow_le_pow_right (by omega) hbit
    omega

/-- a qcow2 of any version other than 2 or 3 is never accepted -/
theorem qcow_rejects_version (s0 : Insp) (h0 : Insp.init .qcow2 = some s0) (chunks : List Bytes)
    (h2 : beNat (slice (sliceOf chunks.flatten 0 512) 4 8) ≠ 2)
    (h3 : beNat (slice (sliceOf chunks.flatten 0 512) 4 8) ≠ 3) :
    safetyCheck (runChunks s0 chunks).1 ≠ .ok := by
  rw [Ne, qcow_accept_iff s0 h0]
  rintro ⟨_, _, _, _, hver⟩
  rcases hver with h | ⟨h, _⟩
  · exact h2 h
  · exact h3 h

/-- a truncated qcow2 (fewer than 512 bytes) is never accepted -/
theorem qcow_rejects_truncated (s0 : Insp) (h0 : Insp.init .qcow2 = some s0) (chunks : List Bytes)
    (h : chunks.flatten.length < 512) : safetyCheck (runChunks s0 chunks).1 ≠ .ok := by
  rw [Ne, qcow_accept_iff s0 h0]
  rintro ⟨hl, _⟩
  rw [lemma_sliceOf_length] at hl
  omega

/-- **qed_never_accepted** — whatever the bytes and the chunking -/
theorem qed_never_accepted (s0 : Insp) (h0 : Insp.init .qed = some s0) (chunks : List Bytes) :
    safetyCheck (runChunks s0 chunks).1 ≠ .ok := by
  intro h
  have := (safety_ok_imp _ h).2.2 "banned" (by
    rw [run_plain_eq_spec .qed rfl s0 h0, lemma_init_eq h0]
    exact List.mem_singleton.mpr rfl)
  simp [runCheck] at this

/-- **null_check_accept_iff** — raw, vhd, vhdx, vdi, iso register only the null check: acceptance is
    exactly completeness plus format match (any reachable state) -/
theorem null_check_accept_iff (s : Insp) (h : s.checks = ["null"]) :
    safetyCheck s = .ok ↔ (s.complete = true ∧ formatMatch s = .ok true) := by
  rw [safety_ok_iff, h]
  simp [runCheck]

theorem lemma_cliExit_ok (content : Bytes) (i : Insp) (hd : detectFileFormat content = .ok i) :
    cliExit content ≤ 2 ∧
    (cliExit content = 0 ↔ safetyCheck i = .ok ∧ (virtualSize i).isOk = true) ∧
    (cliExit content = 1 ↔ ∃ r, safetyCheck i = .failed r ∧ (virtualSize i).isOk = true) := by
  unfold cliExit
  rw [hd]
  cases hs : safetyCheck i <;> cases hv : virtualSize i <;> simp [hs, hv, Except.isOk, Except.toBool]

/-- **cli_exit_zero_iff** — the command-line checker exits 0 only when detection succeeded and the
    detected inspector's safety check returned normally -/
theorem cli_exit_zero_iff (content : Bytes) :
    cliExit content = 0 ↔ ∃ i, detectFileFormat content = .ok i ∧ safetyCheck i = .ok ∧
                               (virtualSize i).isOk = true := by
  cases hd : detectFileFormat content with
  | error e => simp [cliExit, hd]
  | ok i =>
    rw [(lemma_cliExit_ok content i hd).2.1]
    exact ⟨fun h => ⟨i, rfl, h⟩, fun ⟨j, hj, h⟩ => by cases hj; exact h⟩

/-- the exit status is 0, 1 or 2, and 1 exactly for a detected image whose safety check **failed**
    (SafetyCheckFailed) while its virtual size could be computed; anything unexpected is 2, never 0 -/
theorem cli_exit_one_iff (content : Bytes) :
    cliExit content ≤ 2 ∧
    (cliExit content = 1 ↔ ∃ i r, detectFileFormat content = .ok i ∧ safetyCheck i = .failed r ∧
                                   (virtualSize i).isOk = true) := by
  cases hd : detectFileFormat content with
  | error e => simp [cliExit, hd]
  | ok i =>
    obtain ⟨h2, _, h1⟩ := lemma_cliExit_ok content i hd
    exact ⟨h2, h1.trans ⟨fun ⟨r, h⟩ => ⟨i, r, rfl, h⟩, fun ⟨j, r, hj, h⟩ => by cases hj; exact ⟨r, h⟩⟩⟩

/-- fail-closed at the command line: a detection error or a failing safety check never gives exit 0 -/
theorem cli_exit_nonzero_of_failure (content : Bytes) :
    (∀ e, detectFileFormat content = .error e → cliExit content = 2) ∧
    (∀ i, detectFileFormat content = .ok i → safetyCheck i ≠ .ok → cliExit content ≠ 0) := by
  refine ⟨fun e he => by simp [cliExit, he], fun i hi hs h0 => ?_⟩
  obtain ⟨j, hj, hok, _⟩ := (cli_exit_zero_iff content).1 h0
  rw [hi] at hj
  cases hj
  exact hs hok

/-! the hypothesis `Insp.init .qcow2 = some s0` of the theorems above can be met -/
example : ∃ s, Insp.init .qcow2 = some s := ⟨_, rfl⟩

end Oslo.Insp
