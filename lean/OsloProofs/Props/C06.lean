/-
C06 — InspectWrapper is a transparent pipe that isolates inspector faults.

The wrapper model is generic in the inspectors (`IOps σ`): every theorem below holds for
*arbitrary* inspector behaviour — any fault placement, any completeness/match answers — for
every chunk list, expected format and inspector list.  The model identifies members of
`_errored_inspectors` by name: `errored_never_fed` needs that an inspector does not change its
name (`NameStable`; the other theorems take it as a hypothesis without needing it), and
`fault_isolated` that the names are pairwise different.  What one `_process_chunk` does is
analysed in Lemmas/WrapLoop.lean.
-/
import OsloModel.Wrapper
import OsloProofs.Lemmas.Acts
import OsloProofs.Lemmas.WrapLoop
namespace Oslo.Insp

variable {σ : Type}

def NameStable (ops : IOps σ) : Prop := ∀ i c, ops.name (ops.eat i c).1 = ops.name i

/-- `b` is what became of inspector `a`: an inspector already marked errored is not touched -/
def Untouched (ops : IOps σ) (errd : List String) (a b : σ) : Prop :=
  ops.name b = ops.name a ∧ (ops.name a ∈ errd → b = a)

/-- **nonexpected_fault_contained** — without an expected format nothing an inspector does ever
    reaches the reader: `_process_chunk` always returns normally -/
theorem nonexpected_fault_contained (ops : IOps σ) (hn : NameStable ops) (w : Wrap σ) (chunk : Bytes)
    (h : w.expected = none) : (w.processChunk ops chunk).2 = .done :=
  processLoop_done_of_expected_unfed ops w.expected chunk w.insps [] w.errored (fun _ _ hx => by rw [h] at hx; cases hx)

theorem lemma_stopped (ops : IOps σ) (w : Wrap σ) (chunk : Bytes) (h : (w.processChunk ops chunk).2 ≠ .done) :
    ∃ i ∈ w.insps, some (ops.name i) = w.expected ∧ (w.processChunk ops chunk).2 = xdec ops i chunk := by
  rcases processLoop_outcome ops w.expected chunk w.insps [] w.errored with hd | ⟨i, hi, _, ho⟩
  · exact absurd hd h
  · obtain ⟨hx, hid⟩ := idec_stop ops w.expected chunk i (fun hd => h (ho.trans hd))
    exact ⟨i, hi, hx, ho.trans hid⟩

/-- … and with an expected format, an exception reaches the reader only as that format's own
    inspector's error (raised by its `eat_chunk`, or by its `format_match` once complete) -/
theorem raised_only_by_expected (ops : IOps σ) (hn : NameStable ops) (w : Wrap σ) (chunk : Bytes) (e : Err)
    (h : (w.processChunk ops chunk).2 = .raised e) :
    ∃ i ∈ w.insps, some (ops.name i) = w.expected ∧
      ((ops.eat i chunk).2 = some e ∨
       ((ops.eat i chunk).2 = none ∧ ops.fmatch (ops.eat i chunk).1 = .error e)) := by
  obtain ⟨i, hi, hx, ho⟩ := lemma_stopped ops w chunk (by rw [h]; simp)
  exact ⟨i, hi, hx, (decOf_raised ops _ e (ho.symm.trans h)).imp id (fun hr => ⟨hr.1, hr.2.2⟩)⟩

/-- the ImageFormatError "content does not match expected format" is raised exactly for the expected
    inspector being complete without matching -/
theorem mismatch_only_by_expected (ops : IOps σ) (hn : NameStable ops) (w : Wrap σ) (chunk : Bytes)
    (h : (w.processChunk ops chunk).2 = .mismatch) :
    ∃ i ∈ w.insps, some (ops.name i) = w.expected ∧ (ops.eat i chunk).2 = none ∧
      ops.complete (ops.eat i chunk).1 = true ∧ ops.fmatch (ops.eat i chunk).1 = .ok false := by
  obtain ⟨i, hi, hx, ho⟩ := lemma_stopped ops w chunk (by rw [h]; simp)
  exact ⟨i, hi, hx, decOf_mismatch ops _ (ho.symm.trans h)⟩

/-- **errored_never_fed** — an inspector that has failed is never fed again: one `_process_chunk`
    leaves every inspector already in the errored set exactly as it was (position by position),
    no inspector changes its name, and the errored set only grows -/
theorem errored_never_fed (ops : IOps σ) (hn : NameStable ops) (w : Wrap σ) (chunk : Bytes) :
    Pointwise (Untouched ops w.errored) w.insps (w.processChunk ops chunk).1.insps ∧
    (∀ n ∈ w.errored, n ∈ (w.processChunk ops chunk).1.errored) := by
  obtain ⟨d, news, o, heq, _, hp⟩ := processLoop_pointwise ops w.expected chunk w.insps [] w.errored
  rw [processChunk_eq, heq]
  refine ⟨hp.imp ?_, fun n hm => List.mem_append_left _ hm⟩
  rintro a b (rfl | ⟨hne, rfl, _⟩)
  · exact ⟨rfl, fun _ => rfl⟩
  · exact ⟨hn a chunk, fun hin => absurd hin hne⟩

theorem lemma_pipe_prefix (ops : IOps σ) : ∀ (src : List Bytes) (w : Wrap σ) (out : List Bytes),
    ∃ k, (Wrap.pipe ops w src out).1 = out.reverse ++ src.take k ∧
         ((Wrap.pipe ops w src out).2.2 = .done → k = src.length) := by
  intro src
  induction src with
  | nil => intro w out; exact ⟨0, by simp [Wrap.pipe], fun _ => rfl⟩
  | cons c cs ih =>
    intro w out
    rw [pipe_cons]
    split
    · obtain ⟨k, hk, hd⟩ := ih (w.processChunk ops c).1 (c :: out)
      exact ⟨k + 1, by simp [hk], fun h => by simp [hd h]⟩
    · exact ⟨0, by simp, fun h => absurd h ‹_›⟩

/-- **pipe_transparent** — the chunks handed to the reader are exactly the source's chunks, in
    order, up to the abort point; when nothing aborted they are all of them -/
theorem pipe_transparent (ops : IOps σ) (w : Wrap σ) (src : List Bytes) :
    ∃ k, (Wrap.pipe ops w src []).1 = src.take k ∧
         ((Wrap.pipe ops w src []).2.2 = .done → k = src.length) := by
  simpa using lemma_pipe_prefix ops src w []

/-- **abort_at_first** — when the stream is cut off at some chunk (the reader got exactly the chunks
    before it), what was read and how it ended do not depend on anything after that chunk: no
    further source data is consumed -/
theorem abort_at_first (ops : IOps σ) (w : Wrap σ) (pre : List Bytes) (c : Bytes) (rest rest' : List Bytes)
    (hlen : (Wrap.pipe ops w (pre ++ c :: rest) []).1.length = pre.length) :
    Wrap.pipe ops w (pre ++ c :: rest') [] = Wrap.pipe ops w (pre ++ c :: rest) [] := by
  have : ∀ (pre : List Bytes) (w : Wrap σ) (out : List Bytes),
      (Wrap.pipe ops w (pre ++ c :: rest) out).1.length = out.length + pre.length →
      Wrap.pipe ops w (pre ++ c :: rest') out = Wrap.pipe ops w (pre ++ c :: rest) out := by
    intro pre
    induction pre with
    | nil =>
      intro w out hlen
      simp only [List.nil_append, pipe_cons] at hlen ⊢
      split
      · -- `c` was processed normally: the reader got it too
        rw [if_pos ‹_›] at hlen
        obtain ⟨k, hk, _⟩ := lemma_pipe_prefix ops rest (w.processChunk ops c).1 (c :: out)
        rw [hk] at hlen
        simp at hlen
      · rfl
    | cons p ps ih =>
      intro w out hlen
      simp only [List.cons_append, pipe_cons] at hlen ⊢
      split
      · rw [if_pos ‹_›] at hlen
        exact ih _ (p :: out) (by simp at hlen ⊢; omega)
      · rfl
  exact this pre w [] (by simpa using hlen)

/-- the stream is cut off at the *first* chunk on which `_process_chunk` does not return normally -/
theorem abort_is_first_failing_chunk (ops : IOps σ) (w : Wrap σ) (src : List Bytes) (k : Nat)
    (hk : (Wrap.pipe ops w src []).1 = src.take k) (hlt : k < src.length) :
    (Wrap.pipe ops w src []).2.2 ≠ .done := by
  intro hd
  obtain ⟨k', hk', hd'⟩ := pipe_transparent ops w src
  rw [hk', hd' hd, List.take_length] at hk
  have h1 := congrArg List.length hk
  simp at h1
  omega

/-- `_process_chunk` never changes which format is expected, nor the finished flag -/
theorem processChunk_keeps_expected (ops : IOps σ) (w : Wrap σ) (chunk : Bytes) :
    (w.processChunk ops chunk).1.expected = w.expected ∧
    (w.processChunk ops chunk).1.finished = w.finished :=
  ⟨rfl, rfl⟩

/-- **pipe_total_without_expected** — a wrapper without an expected format is a total, transparent
    pipe: for every source and every inspector behaviour (faults of any kind, in any inspectors, at
    any chunks) the reader receives exactly the source's chunks, all of them, in order; the stream
    ends normally and the wrapper ends up finished (closed) -/
theorem pipe_total_without_expected (ops : IOps σ) (hn : NameStable ops) (w : Wrap σ) (src : List Bytes)
    (h : w.expected = none) :
    (Wrap.pipe ops w src []).1 = src ∧ (Wrap.pipe ops w src []).2.2 = .done ∧
    (Wrap.pipe ops w src []).2.1.finished = true := by
  rw [pipe_none ops src w [] h]
  exact ⟨by simp, rfl, rfl⟩

/-- **fault_isolated** — without an expected format, and with inspectors of pairwise different names (true
    of every real wrapper), what one `_process_chunk` does to an inspector depends on that inspector alone:
    it is left as it was if it had failed before, and otherwise becomes what its own `eat_chunk` makes of it --
    whatever the other inspectors do on this chunk (raise, misbehave, finish) -/
theorem fault_isolated (ops : IOps σ) (w : Wrap σ) (chunk : Bytes) (h : w.expected = none)
    (hnd : (w.insps.map ops.name).Nodup) :
    (w.processChunk ops chunk).1.insps =
      w.insps.map (fun i => if w.errored.contains (ops.name i) then i else (ops.eat i chunk).1) := by
  rw [processChunk_eq, h, processLoop_none_eq ops chunk _ _ _ (List.pairwise_map.mp hnd)]
  rfl

/-- the real inspectors never change their name, so the theorems apply to them -/
theorem realOps_nameStable : NameStable realOps := by
  intro i c
  show (eatChunk i c).1.fmt.name = i.fmt.name
  rw [lemma_eatChunk_fmt]

/-- … in particular for the real inspectors, whatever the bytes are and however they are chunked -/
theorem pipe_total_real (allowed : List String) (src : List Bytes) :
    (Wrap.pipe realOps (Wrap.mk' none allowed) src []).1 = src ∧
    (Wrap.pipe realOps (Wrap.mk' none allowed) src []).2.2 = .done :=
  have h := pipe_total_without_expected realOps realOps_nameStable (Wrap.mk' none allowed) src rfl
  ⟨h.1, h.2.1⟩

/-! non-vacuity: a three-chunk stream through a wrapper expecting qcow2 is cut at the chunk that
    completes the (non-matching) qcow2 header; the reader has received exactly the chunks before it -/
example :
    let w := Wrap.mk' (some "qcow2") ["qcow2", "raw"]
    let src : List Bytes := [List.replicate 300 0, List.replicate 300 0, List.replicate 300 0]
    (Wrap.pipe realOps w src []).1.length = 1 ∧ (Wrap.pipe realOps w src []).2.2 = .mismatch := by
  decide +kernel

end Oslo.Insp
