/-
C03, the no-revision clause: a decision reported before the end of the stream is not revised by
reading further.  This file proves it for wrappers whose inspectors are those of the eight formats
with fixed regions (`decision_stable_static_partial`, `decision_stable_close_static_partial`), where
a complete inspector is simply frozen; `decision_stable` and `decision_stable_close` of
`Props/C03All.lean` are the statements for all ten formats and reuse the `view` machinery of this
file.
-/
import OsloProofs.Props.C01
import OsloProofs.Props.C03
namespace Oslo.Insp

/-- an un-finished inspector of a static format in a state the engine lemmas apply to -/
def Good (s : Insp) : Prop :=
  (s.fmt.plain = true ∧ s.finished = false ∧ ∀ p ∈ s.regions, p.2.isEnd = false) ∨ (∃ h, QShape s h)

theorem lemma_mk_noEnd : ∀ (t : List Gen.RegionSpec) (k : Nat), TableStatic t = true →
    ∀ p ∈ mkRegions t k, p.2.isEnd = false := by
  intro t
  induction t with
  | nil => intro k _ p hp; simp [mkRegions] at hp
  | cons e rest ih =>
    intro k ht p hp
    obtain ⟨n, off, len, ml, isEnd⟩ := e
    simp only [TableStatic, List.all_cons, Bool.and_eq_true, Bool.not_eq_true', Option.isNone_iff_eq_none] at ht
    obtain ⟨⟨_, hend⟩, hrest⟩ := ht
    simp only [mkRegions, List.mem_cons] at hp
    rcases hp with rfl | hp
    · exact hend
    · exact ih (k + 1) hrest p hp

theorem init_good (f : Fmt) (hf : f.static = true) (s0 : Insp) (h0 : Insp.init f = some s0) : Good s0 := by
  by_cases hq : f = .qcow2
  · subst hq
    obtain ⟨off, len, _, hs⟩ := lemma_qcow_init s0 h0
    exact Or.inr ⟨_, hs⟩
  · have hp : f.plain = true := by simp [Fmt.plain, hf, hq]
    rw [lemma_init_eq h0]
    exact Or.inl ⟨hp, rfl, lemma_mk_noEnd _ 0 (plain_tables_static f hp)⟩

theorem lemma_stepRegion_complete (c : Bytes) (pos : Nat) (r : Region) (hE : r.isEnd = false)
    (hc : r.complete = true) : stepRegion c pos r = r := by
  simp [stepRegion, hE, hc]

/-- what `formats` looks at -/
def view (s : Insp) : String × Bool × Except Err Bool := (s.fmt.name, s.complete, formatMatch s)

theorem lemma_formatMatch_congr (s t : Insp) (h1 : t.fmt = s.fmt) (h2 : t.regions = s.regions)
    (h3 : t.qcowInfo = s.qcowInfo) (h4 : t.vmdkType = s.vmdkType) : formatMatch t = formatMatch s := by
  unfold formatMatch Insp.region Insp.complete
  rw [h1, h2, h3, h4]

theorem lemma_view_congr (s t : Insp) (h1 : t.fmt = s.fmt) (h2 : t.regions = s.regions)
    (h3 : t.qcowInfo = s.qcowInfo) (h4 : t.vmdkType = s.vmdkType) : view t = view s := by
  unfold view Insp.complete
  rw [h1, h2, lemma_formatMatch_congr s t h1 h2 h3 h4]

theorem lemma_finish_regions (i : Insp) (h : ∀ p ∈ i.regions, p.2.isEnd = false) :
    i.finish.regions = i.regions := by
  have : ∀ p ∈ i.regions, (p.1, p.2.finish) = p := by
    intro p hp
    simp [Region.finish, h p hp]
  exact (List.map_congr_left this).trans (List.map_id' _)

theorem lemma_finish_view_noEnd (i : Insp) (h : ∀ p ∈ i.regions, p.2.isEnd = false) : view i.finish = view i :=
  lemma_view_congr i i.finish rfl (lemma_finish_regions i h) rfl rfl

theorem lemma_good_step (s : Insp) (c : Bytes) (hg : Good s) :
    (eatChunk s c).2 = none ∧ Good (eatChunk s c).1 ∧
    (s.complete = true → view (eatChunk s c).1 = view s) := by
  rcases hg with ⟨hp, hf, hne⟩ | ⟨h, hs⟩
  · rw [lemma_eatChunk_plain s c hp hf]
    refine ⟨rfl, Or.inl ⟨hp, hf, ?_⟩, fun hc => ?_⟩
    · intro p hp'
      simp only [afterCapture, List.mem_map] at hp'
      obtain ⟨q, hq, rfl⟩ := hp'
      obtain ⟨d, e⟩ := lemma_stepRegion_plain c (s.total + c.length) q.2 (hne q hq)
      rw [e]
      exact hne q hq
    have hreg : (afterCapture s c).regions = s.regions := by
      simp only [afterCapture]
      have : ∀ p ∈ s.regions, (p.1, stepRegion c (s.total + c.length) p.2) = p := by
        intro p hp'
        have hcp : p.2.complete = true := by
          simp only [Insp.complete, List.all_eq_true] at hc
          exact hc p hp'
        rw [lemma_stepRegion_complete c _ p.2 (hne p hp') hcp]
      exact (List.map_congr_left this).trans (List.map_id' _)
    exact lemma_view_congr s (afterCapture s c) rfl hreg rfl rfl
  · obtain ⟨e1, e2⟩ := lemma_qcow_step s h c hs
    rw [e1]
    refine ⟨rfl, Or.inr ⟨_, e2⟩, fun hc => ?_⟩
    have hcomp : h.complete = true := by
      have := hs.regions
      simp only [Insp.complete, this, List.all_cons, List.all_nil, Bool.and_true] at hc
      exact hc
    have hst := lemma_stepRegion_complete c (s.total + c.length) h hs.plain hcomp
    rw [hst]
    exact lemma_view_congr s _ rfl hs.regions.symm hs.info.symm rfl

theorem lemma_processLoop_good (c : Bytes) : ∀ (todo acc : List Insp), (∀ i ∈ todo, Good i) →
    processLoop realOps none c todo acc [] =
      (acc.reverse ++ todo.map (fun i => (eatChunk i c).1), [], .done) := by
  intro todo
  induction todo with
  | nil => intro acc _; simp [processLoop]
  | cons i rest ih =>
    intro acc hg
    obtain ⟨hne, _, _⟩ := lemma_good_step i c (hg i (by simp))
    simp only [processLoop, List.contains_nil, Bool.false_eq_true, if_false, realOps]
    cases he : eatChunk i c with
    | mk i' e =>
      rw [he] at hne
      simp only at hne
      subst hne
      simp only [reduceCtorEq]
      have := ih (i' :: acc) (fun j hj => hg j (by simp [hj]))
      simp only [realOps] at this
      rw [this]
      simp [he]

def namesOf (r : Except Err (Option (List Insp))) : Except Err (Option (List String)) :=
  match r with
  | .error e => .error e
  | .ok none => .ok none
  | .ok (some l) => .ok (some (l.map (fun i => i.fmt.name)))

/-- names of the matching inspectors (or the first format_match error) -/
def mlNames (l : List Insp) : Except Err (List String) :=
  match matchList realOps l with
  | .ok r => .ok (r.map (fun i : Insp => i.fmt.name))
  | .error e => .error e

theorem lemma_mlNames_cons (a : Insp) (l : List Insp) :
    mlNames (a :: l) =
      match formatMatch a with
      | .error e => .error e
      | .ok b =>
        match mlNames l with
        | .error e => .error e
        | .ok r => .ok (if b then a.fmt.name :: r else r) := by
  simp only [mlNames, matchList]
  have hfa : realOps.fmatch a = formatMatch a := rfl
  rw [hfa]
  generalize matchList realOps l = m
  cases formatMatch a with
  | error e => rfl
  | ok b =>
    cases m with
    | error e => rfl
    | ok r => cases b <;> rfl

theorem lemma_matchList_view : ∀ (l l' : List Insp), l.map view = l'.map view → mlNames l = mlNames l' := by
  intro l
  induction l with
  | nil => intro l' h; cases l' with
    | nil => rfl
    | cons b l' => simp at h
  | cons a l ih =>
    intro l' h
    cases l' with
    | nil => simp at h
    | cons b l' =>
      obtain ⟨hv, hrest⟩ : view a = view b ∧ l.map view = l'.map view := by simpa using h
      have hfm : formatMatch a = formatMatch b := congrArg (fun v => v.2.2) hv
      have hnm : a.fmt.name = b.fmt.name := congrArg (fun v => v.1) hv
      rw [lemma_mlNames_cons, lemma_mlNames_cons, hfm, hnm, ih l' hrest]

theorem lemma_filter_view (p : String → Bool) : ∀ (l l' : List Insp), l.map view = l'.map view →
    (l.filter (fun i => p i.fmt.name)).map view = (l'.filter (fun i => p i.fmt.name)).map view := by
  intro l l' h
  have : ∀ l : List Insp, (l.filter (fun i => p i.fmt.name)).map view = (l.map view).filter (fun v => p v.1) :=
    fun l => by rw [List.filter_map]; rfl
  rw [this l, this l', h]

theorem lemma_all_complete_view : ∀ (l l' : List Insp), l.map view = l'.map view →
    l.all (fun i => i.complete) = l'.all (fun i => i.complete) := by
  intro l l' h
  have : ∀ l : List Insp, l.all (fun i => i.complete) = (l.map view).all (fun v => v.2.1) :=
    fun l => by rw [List.all_map]; rfl
  rw [this l, this l', h]

theorem lemma_names_view : ∀ (l l' : List Insp), l.map view = l'.map view →
    l.map (fun i => i.fmt.name) = l'.map (fun i => i.fmt.name) := by
  intro l l' h
  have := congrArg (List.map (fun v : String × Bool × Except Err Bool => v.1)) h
  simpa [List.map_map, Function.comp_def, view] using this

theorem lemma_namesOf_formats (w : Wrap Insp) :
    namesOf (w.formats realOps) =
      match mlNames (w.insps.filter (fun i => i.fmt.name != "raw")) with
      | .error e => .error e
      | .ok ms =>
        if (!(w.insps.filter (fun i => i.fmt.name != "raw")).all (fun i => i.complete) && !w.finished) then .ok none
        else if ms.isEmpty then .ok (some ((w.insps.filter (fun i => i.fmt.name == "raw")).map (fun i => i.fmt.name)))
        else .ok (some ms) := by
  unfold Wrap.formats mlNames
  have e1 : (fun i : Insp => realOps.name i != "raw") = (fun i : Insp => i.fmt.name != "raw") := rfl
  have e2 : (fun i : Insp => realOps.name i == "raw") = (fun i : Insp => i.fmt.name == "raw") := rfl
  have e3 : realOps.complete = (fun i : Insp => i.complete) := rfl
  simp only [bind, Except.bind, e1, e2, e3]
  generalize matchList realOps (w.insps.filter (fun i => i.fmt.name != "raw")) = m
  cases m with
  | error e => rfl
  | ok r =>
    simp only
    split
    · rfl
    · cases r with
      | nil => simp [namesOf, pure, Except.pure]
      | cons a r => simp [namesOf, pure, Except.pure]

/-- `formats` is a function of what it can see of each inspector; of `complete` and `finished` it
    only uses whether a decision is due -/
theorem lemma_formats_congr_due (w w' : Wrap Insp) (hv : w.insps.map view = w'.insps.map view)
    (hd : ((w.insps.filter (fun i => i.fmt.name != "raw")).all (fun i => i.complete) || w.finished) =
          ((w'.insps.filter (fun i => i.fmt.name != "raw")).all (fun i => i.complete) || w'.finished)) :
    namesOf (w.formats realOps) = namesOf (w'.formats realOps) := by
  have h1 := lemma_filter_view (fun n => n != "raw") _ _ hv
  have h2 := lemma_matchList_view _ _ h1
  have h4 := lemma_names_view _ _ (lemma_filter_view (fun n => n == "raw") _ _ hv)
  rw [lemma_namesOf_formats, lemma_namesOf_formats, h2, h4]
  simp only [← Bool.not_or, hd]

theorem formats_congr (w w' : Wrap Insp) (hv : w.insps.map view = w'.insps.map view)
    (hf : w.finished = w'.finished) :
    namesOf (w.formats realOps) = namesOf (w'.formats realOps) :=
  lemma_formats_congr_due w w' hv
    (by rw [lemma_all_complete_view _ _ (lemma_filter_view (fun n => n != "raw") _ _ hv), hf])

/-- invariant of a wrapper over inspectors of static formats -/
def WGood (w : Wrap Insp) : Prop :=
  w.expected = none ∧ w.errored = [] ∧ w.finished = false ∧
  ∀ i ∈ w.insps, Good i ∧ (i.fmt = .raw → i.complete = true)

/-- **decision_stable_static_partial** — for a wrapper over the inspectors of formats with fixed
    regions: once `formats` has answered (before EOF), reading one more chunk returns normally and
    `formats` (hence `format`) answers with exactly the same format names.  By induction this holds
    for every later read.  Missing: wrappers containing the VHDX or VMDK inspector. -/
theorem decision_stable_static_partial (w : Wrap Insp) (hw : WGood w) (l : List Insp)
    (h : w.formats realOps = .ok (some l)) (c : Bytes) :
    (w.processChunk realOps c).2 = .done ∧ WGood (w.processChunk realOps c).1 ∧
    namesOf ((w.processChunk realOps c).1.formats realOps) = .ok (some (l.map (fun i => i.fmt.name))) := by
  obtain ⟨hexp, herr, hfin, hall⟩ := hw
  have hloop := lemma_processLoop_good c w.insps [] (fun i hi => (hall i hi).1)
  have hpc : w.processChunk realOps c =
      ({ w with insps := w.insps.map (fun i => (eatChunk i c).1), errored := [] }, .done) := by
    simp only [Wrap.processChunk, hexp, herr, hloop, List.reverse_nil, List.nil_append]
  -- every inspector is complete at the decision
  have hcomplete : ∀ i ∈ w.insps, i.complete = true := by
    intro i hi
    by_cases hr : i.fmt = .raw
    · exact (hall i hi).2 hr
    · have hdec := (formats_spec realOps w l h).2.2
      rcases hdec with hdec | hdec
      · simp only [List.all_eq_true, List.mem_filter, realOps] at hdec
        apply hdec i ⟨hi, ?_⟩
        simp only [bne_iff_ne, ne_eq]
        exact fun hn => hr (Fmt.eq_raw_of_name _ hn)
      · rw [hfin] at hdec; simp at hdec
  have hstep : ∀ i ∈ w.insps, Good (eatChunk i c).1 ∧ view (eatChunk i c).1 = view i := fun i hi =>
    let ⟨_, hg, hv⟩ := lemma_good_step i c (hall i hi).1
    ⟨hg, hv (hcomplete i hi)⟩
  rw [hpc]
  refine ⟨rfl, ⟨hexp, rfl, hfin, ?_⟩, ?_⟩
  · intro j hj
    obtain ⟨i, hi, rfl⟩ := List.mem_map.mp hj
    refine ⟨(hstep i hi).1, fun _ => ?_⟩
    rw [show (eatChunk i c).1.complete = i.complete from congrArg (·.2.1) (hstep i hi).2]
    exact hcomplete i hi
  · rw [formats_congr ⟨w.insps.map (fun i => (eatChunk i c).1), [], w.expected, w.finished⟩ w
      (by rw [List.map_map]; exact List.map_congr_left fun i hi => (hstep i hi).2) rfl, h]
    rfl

/-- a fresh wrapper restricted to static formats satisfies the invariant -/
theorem static_wrapper_good (allowed : List String) (hne : allowed ≠ [])
    (hst : ∀ n ∈ allowed, ∀ f, Fmt.ofName? n = some f → f.static = true) :
    WGood (Wrap.mk' none allowed) := by
  refine ⟨rfl, rfl, rfl, ?_⟩
  intro i hi
  have hinit := (lemma_mk'_mem hi).1
  have hs : i.fmt.static = true :=
    hst i.fmt.name (allowed_respected none allowed hne i hi) i.fmt (Fmt.ofName?_name _)
  refine ⟨init_good _ hs i hinit, fun hr => ?_⟩
  rw [lemma_init_eq hinit, hr]
  rfl

theorem lemma_finish_view (i : Insp) (hg : Good i) : view i.finish = view i := by
  refine lemma_finish_view_noEnd i fun p hp => ?_
  rcases hg with ⟨_, _, hne⟩ | ⟨h, hs⟩
  · exact hne p hp
  · rw [hs.regions] at hp
    simp only [List.mem_singleton] at hp
    subst hp
    exact hs.plain

/-- **decision_stable_close_static_partial** — `close()` (EOF) does not revise a decision either -/
theorem decision_stable_close_static_partial (w : Wrap Insp) (hw : WGood w) (l : List Insp)
    (h : w.formats realOps = .ok (some l)) :
    namesOf ((w.finish realOps).formats realOps) = .ok (some (l.map (fun i => i.fmt.name))) := by
  obtain ⟨_, _, hfin, hall⟩ := hw
  have hviews : (w.finish realOps).insps.map view = w.insps.map view := by
    simp only [Wrap.finish, List.map_map]
    apply List.map_congr_left
    intro i hi
    exact lemma_finish_view i (hall i hi).1
  have hcomp : (w.insps.filter (fun i => i.fmt.name != "raw")).all (fun i => i.complete) = true := by
    rcases (formats_spec realOps w l h).2.2 with hdec | hdec
    · exact hdec
    · rw [hfin] at hdec; cases hdec
  rw [lemma_formats_congr_due (w.finish realOps) w hviews (by rw [hcomp, Bool.true_or]; exact Bool.or_true _), h]
  rfl

end Oslo.Insp
