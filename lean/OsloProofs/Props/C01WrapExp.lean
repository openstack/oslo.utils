/-
C01 for wrappers WITH an expected format, `InspectWrapper(source, expected_format=n, allowed)`:
what the wrapper concludes — whether reading the whole source through it ends normally, with the
ImageFormatError "content does not match expected format", or with the expected inspector's own
error; and, when it ends normally, everything `formats` / `format` answer after `close()` — is a
function of the bytes alone.  WHERE the stream is cut (how many chunks the reader got before the
exception) does depend on the chunking: it is the first chunk boundary at which the expected
inspector alone decides not to go on (`wrapper_expected_run`).
-/
import OsloProofs.Props.C01Wrap
import OsloProofs.Lemmas.WrapRunExpVhdx
namespace Oslo.Insp

/-- reading the chunk list through `InspectWrapper(source, n, allowed)` -/
def pipeExp (n : String) (allowed : List String) (cs : List Bytes) : List Bytes × Wrap Insp × POut :=
  Wrap.pipe realOps (Wrap.mk' (some n) allowed) cs []

/-- the wrapper's inspector of the expected format, if it has one -/
def expInsp (n : String) (allowed : List String) : Option Insp :=
  (Wrap.mk' none allowed).insps.find? (fun i => i.fmt.name == n)

/-- `expInsp` searches the wrapper without expected format: the inspectors are the same -/
theorem lemma_mk'_insps (e : Option String) (allowed : List String) :
    (Wrap.mk' e allowed).insps = (Wrap.mk' none allowed).insps := rfl

theorem lemma_expInsp_none (n : String) (allowed : List String) (h : expInsp n allowed = none) :
    ∀ i ∈ (Wrap.mk' (some n) allowed).insps, realOps.name i ≠ n := by
  intro i hi
  rw [lemma_mk'_insps] at hi
  have := List.find?_eq_none.mp h i hi
  show i.fmt.name ≠ n
  simpa using this

theorem lemma_expInsp_some (n : String) (allowed : List String) (x : Insp) (h : expInsp n allowed = some x) :
    x ∈ (Wrap.mk' none allowed).insps ∧ x.fmt.name = n ∧ Insp.init x.fmt = some x := by
  have hm := List.mem_of_find?_eq_some h
  have hp := List.find?_some h
  exact ⟨hm, by simpa using hp, (lemma_mk'_mem hm).1⟩

theorem lemma_exp_done (n : String) (allowed : List String) (cs : List Bytes)
    (h : (pipeExp n allowed cs).2.2 = .done) :
    pipeExp n allowed cs = (cs, { pipeFinal allowed cs with expected := some n }, .done) := by
  obtain ⟨w', hp, _⟩ := wrapper_run allowed cs
  have hp' : Wrap.pipe realOps { Wrap.mk' (some n) allowed with expected := none } cs [] = (cs, w', .done) := hp
  rw [pipeExp, pipe_done realOps cs _ [] h, hp', pipeFinal, hp]
  rfl

/-- **wrapper_expected_run** — structure of reading a whole chunk list through
    `InspectWrapper(source, n, allowed)`, for every `n`, `allowed` and chunk list, no hypotheses.
    If the wrapper has no inspector named `n` (unknown name, or not among `allowed`) the read is
    exactly the read without expected format: all chunks delivered, normal end, the closed wrapper
    of `wrapper_run` (with `expected = n`).  Otherwise, with `x` the wrapper's inspector named `n`:
    the reader gets exactly the first `k` chunks and the read ends with `o`, where
    `(k, o) = xrun realOps x cs` is computed from `x` ALONE — `k` is the number of chunks before the
    first chunk on which `x` raises, or is complete with `format_match` raising or `False`
    (`o` = that error / `.mismatch`); `o = .done`, `k = |cs|` if there is none — whatever the other
    inspectors do; and when `o = .done` the closed wrapper is the one of the read without expected
    format. -/
theorem wrapper_expected_run (n : String) (allowed : List String) (cs : List Bytes) :
    match expInsp n allowed with
    | none => pipeExp n allowed cs = (cs, { pipeFinal allowed cs with expected := some n }, .done)
    | some x =>
      (pipeExp n allowed cs).1 = cs.take (xrun realOps x cs).1 ∧
      (pipeExp n allowed cs).2.2 = (xrun realOps x cs).2 ∧
      ((xrun realOps x cs).2 = .done →
        (pipeExp n allowed cs).2.1 = { pipeFinal allowed cs with expected := some n }) := by
  cases hfind : expInsp n allowed with
  | none =>
    exact lemma_exp_done n allowed cs (pipe_absent realOps realOps_nameStable cs _ []
      (fun i hi hx => lemma_expInsp_none n allowed hfind i hi (Option.some.inj hx)))
  | some x =>
    obtain ⟨hx, hxn, _⟩ := lemma_expInsp_some n allowed x hfind
    obtain ⟨h1, h2⟩ := pipe_expected realOps realOps_nameStable cs (Wrap.mk' (some n) allowed) [] x
      (lemma_mk_distinct (some n) allowed) hx (congrArg some hxn.symm) List.not_mem_nil
    exact ⟨by simpa [pipeExp] using h1, h2,
      fun hd => congrArg (·.2.1) (lemma_exp_done n allowed cs (h2.trans hd))⟩

/-- **wrapper_expected_abort** — when the read does not end normally (`o ≠ .done`), the wrapper has
    an inspector `x` of the expected format, and the chunk list splits as `pre ++ c :: post` with:
    the reader got exactly `pre` (so the bytes delivered are a prefix of the stream), `x` ate `pre`
    without raising, and `o` is what `_process_chunk` reads off `x` after `c`: `x`'s own error on
    `c`, or — `x` being complete after `c` — its `format_match` error, or `.mismatch` for `False`.
    In the `.mismatch` case: `x` after `pre ++ [c]` has not raised, is complete, and does not match. -/
theorem wrapper_expected_abort (n : String) (allowed : List String) (cs : List Bytes)
    (h : (pipeExp n allowed cs).2.2 ≠ .done) :
    ∃ x ∈ (Wrap.mk' (some n) allowed).insps, x.fmt.name = n ∧
    ∃ pre c post, cs = pre ++ c :: post ∧ (pipeExp n allowed cs).1 = pre ∧ (feed x pre).2 = none ∧
      decOf realOps (feed x (pre ++ [c])) = (pipeExp n allowed cs).2.2 ∧
      ((pipeExp n allowed cs).2.2 = .mismatch →
        (feed x (pre ++ [c])).2 = none ∧ (feed x (pre ++ [c])).1.complete = true ∧
        formatMatch (feed x (pre ++ [c])).1 = .ok false) := by
  have hrun := wrapper_expected_run n allowed cs
  cases hfind : expInsp n allowed with
  | none =>
    rw [hfind] at hrun
    rw [hrun] at h
    exact absurd rfl h
  | some x =>
    rw [hfind] at hrun
    obtain ⟨h1, h2, _⟩ := hrun
    obtain ⟨hx, hxn, _⟩ := lemma_expInsp_some n allowed x hfind
    rw [h2] at h
    obtain ⟨pre, c, post, hcs, hlen, hok, hdec⟩ := xrun_stop realOps cs x h
    rw [gfeed_real] at hok hdec
    refine ⟨x, hx, hxn, pre, c, post, hcs, ?_, hok, by rw [h2]; exact hdec, fun hm => ?_⟩
    · rw [h1, ← hlen, hcs, List.take_left]
    · rw [h2, ← hdec] at hm
      exact decOf_mismatch realOps _ hm

/-- how the VMDK inspector, as the expected one, ends the read (valid for `VmdkSparse` /
    `VmdkNoMatch` streams) -/
def vmdkOutcome (s : Bytes) : POut :=
  if VmdkSparse s then
    (if (hdrOf s).descSec * 512 = Gen.vmdkDescOffset then .done else .raised .imageFormat)
  else (if s.length < 64 then .done else .raised .imageFormat)

/-- how the read through a wrapper whose expected inspector is `x` ends, from the bytes `s`:
    for a fixed-region format, what `_process_chunk` reads off `x` fed the whole stream in one chunk
    (`.mismatch` iff it is then complete and `format_match` is `False`) -/
def expectedOutcomeOf (x : Insp) (s : Bytes) : POut :=
  if x.fmt = .vhdx then vhdxOutcome s
  else if x.fmt = .vmdk then vmdkOutcome s
  else decI (feed x [s]).1

theorem lemma_outcome_static (x : Insp) (hs : x.fmt.static = true) (s : Bytes) :
    expectedOutcomeOf x s = decI (feed x [s]).1 := by
  have h1 : x.fmt ≠ .vhdx := fun h => absurd hs (by rw [h]; decide)
  have h2 : x.fmt ≠ .vmdk := fun h => absurd hs (by rw [h]; decide)
  rw [expectedOutcomeOf, if_neg h1, if_neg h2]

theorem lemma_vmdk_sparse_not_nomatch (s : Bytes) (h1 : VmdkSparse s) (h2 : VmdkNoMatch s) : False := by
  have := h2.1
  simp only [startsWith, lemma_kdmv_length, h1.2.1] at this
  simp at this

/-- **wrapper_expected_outcome_eq** — for `InspectWrapper(source, n, allowed)` and every chunk list
    `cs` with bytes `s = cs.flatten`: the read ends normally if the wrapper has no inspector named
    `n`, and otherwise as `expectedOutcomeOf x s` says, `x` being that inspector — a function of the
    bytes.  No hypothesis when `n` names a fixed-region format; for `n = "vhdx"` (inspector present)
    `VhdxForward s ∧ VhdxMetaSigOK s`, for `n = "vmdk"` (present) `VmdkSparse s ∨ VmdkNoMatch s`.
    Missing: the known-finding classes KF_D7 / KF_N4 (expected VHDX) and KF_F1 / KF_F3 (expected
    VMDK) as the expected format's stream. -/
theorem wrapper_expected_outcome_eq (n : String) (allowed : List String) (cs : List Bytes)
    (hx : n = "vhdx" → (VhdxForward cs.flatten ∧ VhdxMetaSigOK cs.flatten) ∨ (allowed ≠ [] ∧ "vhdx" ∉ allowed))
    (hv : n = "vmdk" → VmdkSparse cs.flatten ∨ VmdkNoMatch cs.flatten ∨ (allowed ≠ [] ∧ "vmdk" ∉ allowed)) :
    (pipeExp n allowed cs).2.2 =
      match expInsp n allowed with
      | none => .done
      | some x => expectedOutcomeOf x cs.flatten := by
  have hrun := wrapper_expected_run n allowed cs
  cases hfind : expInsp n allowed with
  | none => rw [hfind] at hrun; rw [hrun]
  | some x =>
    rw [hfind] at hrun
    obtain ⟨_, h2, _⟩ := hrun
    obtain ⟨hxm, hxn, hinit⟩ := lemma_expInsp_some n allowed x hfind
    simp only
    rw [h2]
    by_cases hs : x.fmt.static = true
    · rw [lemma_outcome_static x hs]
      exact lemma_xrun_static x.fmt hs x hinit cs
    · unfold expectedOutcomeOf
      rcases Fmt.vhdx_or_vmdk_of_not_static _ hs with hf | hf
      · rw [if_pos hf]
        have hn : n = "vhdx" := by rw [← hxn, hf]; rfl
        rcases hx hn with hyp | hyp
        · rw [hf] at hinit
          exact lemma_xrun_vhdx x hinit cs hyp.1 hyp.2
        · exact (lemma_not_allowed allowed x hxm (by rw [hf]; exact hyp)).elim
      · have h1 : x.fmt ≠ .vhdx := by rw [hf]; simp
        rw [if_neg h1, if_pos hf]
        have hn : n = "vmdk" := by rw [← hxn, hf]; rfl
        unfold vmdkOutcome
        rcases hv hn with hyp | hyp | hyp
        · rw [hf] at hinit
          rw [if_pos hyp]
          exact lemma_xrun_vmdk_sparse x hinit cs hyp
        · rw [hf] at hinit
          rw [if_neg (fun h => lemma_vmdk_sparse_not_nomatch _ h hyp)]
          exact lemma_xrun_vmdk_nomatch x hinit cs hyp
        · exact (lemma_not_allowed allowed x hxm (by rw [hf]; exact hyp)).elim

/-- **wrapper_expected_outcome_static** — `InspectWrapper(source, n, allowed)` with a non-empty
    `allowed` naming only fixed-region formats, ANY expected name `n` (in `allowed`, not in it, or
    unknown — then the wrapper has no inspector for it and nothing is ever tested), and any two
    chunk lists with the same bytes (empty chunks included; no hypothesis on the bytes):
    (1) the read ends the same way: both normally, both with `.mismatch`, or both with the same
        `.raised e` (a fixed-region inspector never raises from `eat_chunk`; `e` can only be its
        `format_match` error once complete) — namely as `expectedOutcomeOf` of the bytes;
    (2) if normally: every chunk was delivered in both reads and the two closed wrappers are in the
        same state, hence `formats` and `format` answer the same;
    (3) `.mismatch` happens exactly when the expected inspector fed the whole stream in one chunk is
        complete and does not match.
    What differs between the chunkings in the abort case is only where the stream is cut
    (`wrapper_expected_abort`). -/
theorem wrapper_expected_outcome_static (n : String) (allowed : List String) (hne : allowed ≠ [])
    (hst : ∀ m ∈ allowed, ∀ f, Fmt.ofName? m = some f → f.static = true)
    (c1 c2 : List Bytes) (h : c1.flatten = c2.flatten) :
    (pipeExp n allowed c1).2.2 = (pipeExp n allowed c2).2.2 ∧
    ((pipeExp n allowed c1).2.2 = .done →
      (pipeExp n allowed c1).1 = c1 ∧ (pipeExp n allowed c2).1 = c2 ∧
      (pipeExp n allowed c1).2.1 = (pipeExp n allowed c2).2.1 ∧
      (pipeExp n allowed c1).2.1.formats realOps = (pipeExp n allowed c2).2.1.formats realOps ∧
      (pipeExp n allowed c1).2.1.format realOps = (pipeExp n allowed c2).2.1.format realOps) ∧
    ((pipeExp n allowed c1).2.2 = .mismatch ↔
      ∃ x, expInsp n allowed = some x ∧ (feed x [c1.flatten]).1.complete = true ∧
        formatMatch (feed x [c1.flatten]).1 = .ok false) := by
  have hnot : ∀ m, (m = "vhdx" ∨ m = "vmdk") → m ∉ allowed := by
    intro m hm hmem
    rcases hm with rfl | rfl
    · exact absurd (hst "vhdx" hmem .vhdx (by decide)) (by decide)
    · exact absurd (hst "vmdk" hmem .vmdk (by decide)) (by decide)
  have e1 := wrapper_expected_outcome_eq n allowed c1
    (fun _ => Or.inr ⟨hne, hnot _ (Or.inl rfl)⟩) (fun _ => Or.inr (Or.inr ⟨hne, hnot _ (Or.inr rfl)⟩))
  have e2 := wrapper_expected_outcome_eq n allowed c2
    (fun _ => Or.inr ⟨hne, hnot _ (Or.inl rfl)⟩) (fun _ => Or.inr (Or.inr ⟨hne, hnot _ (Or.inr rfl)⟩))
  have heq : (pipeExp n allowed c1).2.2 = (pipeExp n allowed c2).2.2 := by rw [e1, e2, h]
  refine ⟨heq, fun hd => ?_, ?_⟩
  · have d1 := lemma_exp_done n allowed c1 hd
    have d2 := lemma_exp_done n allowed c2 (heq ▸ hd)
    have hw := (wrapper_chunk_independent_static allowed hne hst c1 c2 h).1
    rw [d1, d2]
    simp only [hw, and_self]
  · rw [e1]
    cases hfind : expInsp n allowed with
    | none => simp
    | some x =>
      obtain ⟨hxm, _, _⟩ := lemma_expInsp_some n allowed x hfind
      have hs := hst _ (allowed_respected none allowed hne x hxm) _ (Fmt.ofName?_name x.fmt)
      simp only [lemma_outcome_static x hs, Option.some.injEq, exists_eq_left']
      constructor
      · intro hm
        have := decOf_mismatch realOps ((feed x [c1.flatten]).1, none) hm
        exact ⟨this.2.1, this.2.2⟩
      · rintro ⟨hc, hm⟩
        simp [decI, hc, hm, ofMatch]

theorem lemma_formats_expected (w : Wrap Insp) (e : Option String) :
    Wrap.formats realOps { w with expected := e } = Wrap.formats realOps w ∧
    Wrap.format realOps { w with expected := e } = Wrap.format realOps w := ⟨rfl, rfl⟩

/-- **wrapper_expected_outcome_partial** — `InspectWrapper(source, n, allowed)` with ANY `allowed`
    (`[]` = all ten formats) and ANY expected name `n`, two chunk lists with the same bytes `s`
    (empty chunks included), under the hypotheses of `wrapper_chunk_independent_partial`
    (VHDX: `VhdxForward s ∧ VhdxMetaSigOK s` or inspector absent; VMDK: `VmdkSparse s` or
    `VmdkNoMatch s` or inspector absent):
    (1) the read ends the same way — normally, `.mismatch`, or the same `.raised e` (the expected
        VHDX inspector's region-table error, the expected VMDK inspector's ImageFormatError, or a
        `format_match` error);
    (2) if normally: every chunk was delivered in both reads, and after `close()` `formats` gives
        the same names, `format` the same name or error, the inspector `format` returns the same
        `Summary` (name, format_match, complete, virtual_size, safety_check outcome), and the same
        inspectors are in the errored set.
    For (1) alone the hypotheses are needed only for the expected format's own inspector
    (`wrapper_expected_outcome_eq`): the other inspectors' faults are contained.
    Missing: streams in the known-finding classes KF_D7, KF_N4, KF_F1, KF_F3. -/
theorem wrapper_expected_outcome_partial (n : String) (allowed : List String) (c1 c2 : List Bytes)
    (h : c1.flatten = c2.flatten)
    (hx : (VhdxForward c1.flatten ∧ VhdxMetaSigOK c1.flatten) ∨ (allowed ≠ [] ∧ "vhdx" ∉ allowed))
    (hv : VmdkSparse c1.flatten ∨ VmdkNoMatch c1.flatten ∨ (allowed ≠ [] ∧ "vmdk" ∉ allowed)) :
    (pipeExp n allowed c1).2.2 = (pipeExp n allowed c2).2.2 ∧
    ((pipeExp n allowed c1).2.2 = .done →
      (pipeExp n allowed c1).1 = c1 ∧ (pipeExp n allowed c2).1 = c2 ∧
      namesOf ((pipeExp n allowed c1).2.1.formats realOps) = namesOf ((pipeExp n allowed c2).2.1.formats realOps) ∧
      fmtName ((pipeExp n allowed c1).2.1.format realOps) = fmtName ((pipeExp n allowed c2).2.1.format realOps) ∧
      exMap (Option.map summary) ((pipeExp n allowed c1).2.1.format realOps) =
        exMap (Option.map summary) ((pipeExp n allowed c2).2.1.format realOps) ∧
      (∀ m, m ∈ (pipeExp n allowed c1).2.1.errored ↔ m ∈ (pipeExp n allowed c2).2.1.errored)) := by
  have e1 := wrapper_expected_outcome_eq n allowed c1 (fun _ => hx) (fun _ => hv)
  have e2 := wrapper_expected_outcome_eq n allowed c2 (fun _ => h ▸ hx) (fun _ => h ▸ hv)
  have heq : (pipeExp n allowed c1).2.2 = (pipeExp n allowed c2).2.2 := by rw [e1, e2, h]
  refine ⟨heq, fun hd => ?_⟩
  have d1 := lemma_exp_done n allowed c1 hd
  have d2 := lemma_exp_done n allowed c2 (heq ▸ hd)
  obtain ⟨a, b, c, d⟩ := wrapper_chunk_independent_partial allowed c1 c2 h hx hv
  rw [d1, d2]
  exact ⟨rfl, rfl, a, b, c, d⟩

/-- 600 zero bytes -/
def exZeros : Bytes := zeros 600

/-- an expected-qcow2 wrapper over the qcow2 header of C01Wrap.lean, two chunkings: the read ends
    normally, all chunks delivered, `format` answers qcow2 -/
example :
    (pipeExp "qcow2" ["qcow2", "raw"] [exQcowW]).2.2 = .done ∧
    (pipeExp "qcow2" ["qcow2", "raw"] [exQcowW.take 5, [], exQcowW.drop 5]).2.2 = .done ∧
    (pipeExp "qcow2" ["qcow2", "raw"] [exQcowW.take 5, [], exQcowW.drop 5]).1.length = 3 ∧
    fmtName ((pipeExp "qcow2" ["qcow2", "raw"] [exQcowW.take 5, [], exQcowW.drop 5]).2.1.format realOps) =
      .ok (some "qcow2") := by
  decide +kernel

/-- the same wrapper over 600 zero bytes: `.mismatch` under both chunkings; the cut differs (no chunk
    delivered when the whole stream comes at once, two chunks delivered when the header completes
    with the third chunk) -/
example :
    (pipeExp "qcow2" ["qcow2", "raw"] [exZeros]).2.2 = .mismatch ∧
    (pipeExp "qcow2" ["qcow2", "raw"] [exZeros]).1.length = 0 ∧
    (pipeExp "qcow2" ["qcow2", "raw"] [exZeros.take 300, [], exZeros.drop 300]).2.2 = .mismatch ∧
    (pipeExp "qcow2" ["qcow2", "raw"] [exZeros.take 300, [], exZeros.drop 300]).1.length = 2 := by
  decide +kernel

/-- … hence, by the theorem, EVERY chunking of the 600 zero bytes through that wrapper ends with
    `.mismatch`; and through a wrapper expecting an unknown format or one not allowed, normally -/
example (cs : List Bytes) (h : cs.flatten = exZeros) :
    (pipeExp "qcow2" ["qcow2", "raw"] cs).2.2 = .mismatch ∧
    (pipeExp "vmdk" ["qcow2", "raw"] cs).2.2 = .done ∧ (pipeExp "nonsense" ["qcow2", "raw"] cs).2.2 = .done := by
  have hfl : cs.flatten = [exZeros].flatten := by simp [h]
  rw [(wrapper_expected_outcome_static "qcow2" _ (by simp) lemma_qcow_raw_static cs [exZeros] hfl).1,
    (wrapper_expected_outcome_static "vmdk" _ (by simp) lemma_qcow_raw_static cs [exZeros] hfl).1,
    (wrapper_expected_outcome_static "nonsense" _ (by simp) lemma_qcow_raw_static cs [exZeros] hfl).1]
  decide +kernel

/-- the full ten-format wrapper expecting qcow2 over the qcow2 header, and expecting vmdk over the
    sparse VMDK image `exVmdk`: the hypotheses of `wrapper_expected_outcome_partial` hold (C01Wrap),
    and the reads end normally with the expected format; expecting vmdk over the qcow2 header ends
    with the VMDK inspector's ImageFormatError under both chunkings -/
example :
    (pipeExp "qcow2" [] [exQcowW.take 70, [], exQcowW.drop 70]).2.2 = .done ∧
    fmtName ((pipeExp "qcow2" [] [exQcowW.take 70, [], exQcowW.drop 70]).2.1.format realOps) = .ok (some "qcow2") ∧
    (pipeExp "vmdk" [] [exVmdk.take 70, exVmdk.drop 70]).2.2 = .done ∧
    (pipeExp "vmdk" [] [exQcowW]).2.2 = .raised .imageFormat ∧
    (pipeExp "vmdk" [] [exQcowW.take 70, [], exQcowW.drop 70]).2.2 = .raised .imageFormat := by
  unfold exVmdk kdmv
  rw [ascii_ofList, ascii_ofList]
  decide +kernel

end Oslo.Insp
