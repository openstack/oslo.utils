/-
C03, the no-revision clause, for wrappers over ALL TEN formats (VHDX and VMDK included), every
stream and every chunking, with no hypothesis on the stream: a decision reported before the end
of the stream is not revised by reading further, nor by `close()`.

Why it holds.  `formats` answers before EOF only when every non-raw inspector is `complete`.
An inspector that has failed stays in the list but is never fed again.  An inspector that has
not failed is, at every chunk boundary, a fixpoint of `post_process` (the `while new_regions`
loop of `eat_chunk` ends only when a pass added no region — `Good2`, Lemmas/StableStep.lean);
if it is also complete, one more chunk is captured by no region (complete regions are skipped;
an end-capture region is never complete before `finish()`), post-processing sees the same
regions again and does nothing, and no region_complete callback runs: only `_total_count` moves
(`lemma_eat_complete`).  So what `formats` looks at is unchanged.
-/
import OsloProofs.Props.C03Stable
import OsloProofs.Props.C05
import OsloProofs.Props.C06
import OsloProofs.Props.C01Vhdx
import OsloProofs.Lemmas.StableStep
import OsloProofs.Lemmas.StableSample
namespace Oslo.Insp

theorem lemma_view_total (i : Insp) (t : Nat) : view { i with total := t } = view i :=
  lemma_view_congr i { i with total := t } rfl rfl rfl rfl

/-- `IOK errd i`, inspector `i` is in order given the errored set `errd`: no end-capture region
    closed; raw is complete; and it either has failed (is named in the errored set, hence frozen)
    or is at a chunk boundary in the sense of `Good2` -/
def IOK (errd : List String) (i : Insp) : Prop :=
  Quiet i ∧ (i.fmt = .raw → i.complete = true) ∧ (i.fmt.name ∈ errd ∨ Good2 i)

/-- invariant of an un-finished wrapper over the real inspectors, any expected format -/
def WInv (w : Wrap Insp) : Prop := w.finished = false ∧ ∀ i ∈ w.insps, IOK w.errored i

/-- invariant of an un-finished wrapper with no expected format: what `WGood` (Props/C03Stable.lean)
    is for the fixed-region formats, for all ten — `Good2` in place of `Good`, and inspectors that
    have failed allowed -/
def WGood2 (w : Wrap Insp) : Prop := w.expected = none ∧ WInv w

theorem lemma_iok_mono {a b : List String} {i : Insp} (h : IOK a i) (hab : ∀ n ∈ a, n ∈ b) : IOK b i := by
  obtain ⟨h1, h2, h3⟩ := h
  refine ⟨h1, h2, ?_⟩
  rcases h3 with h3 | h3
  · exact Or.inl (hab _ h3)
  · exact Or.inr h3

theorem lemma_iok_good {errd : List String} {i : Insp} (h : IOK errd i) (hn : i.fmt.name ∉ errd) : Good2 i := by
  rcases h.2.2 with h3 | h3
  · exact absurd h3 hn
  · exact h3

theorem lemma_iok_eat_ok {errd : List String} {i : Insp} {c : Bytes} (h : IOK errd i)
    (hn : i.fmt.name ∉ errd) (he : (eatChunk i c).2 = none) : IOK errd (eatChunk i c).1 := by
  have hg := lemma_iok_good h hn
  refine ⟨(lemma_eatChunk_keep i c).quiet h.1, fun hr => ?_, Or.inr (lemma_eat_good i c hg he)⟩
  have hc := h.2.1 ((lemma_eatChunk_fmt i c).symm.trans hr)
  rw [lemma_eat_complete i c hg hc]
  exact hc

theorem lemma_iok_eat_err {errd : List String} {i : Insp} {c : Bytes} (h : IOK errd i)
    (hn : i.fmt.name ∉ errd) (he : (eatChunk i c).2 ≠ none) : IOK (errd ++ [i.fmt.name]) (eatChunk i c).1 := by
  have hg := lemma_iok_good h hn
  refine ⟨(lemma_eatChunk_keep i c).quiet h.1, fun hr => ?_, Or.inl (by rw [lemma_eatChunk_fmt]; simp)⟩
  -- raw is complete, and a complete inspector at a boundary does not raise
  rw [lemma_eat_complete i c hg (h.2.1 ((lemma_eatChunk_fmt i c).symm.trans hr))] at he
  exact absurd rfl he

theorem lemma_complete_at_decision (w : Wrap Insp) (hw : WInv w) (l : List Insp)
    (h : w.formats realOps = .ok (some l)) : ∀ i ∈ w.insps, i.complete = true := by
  obtain ⟨hfin, hall⟩ := hw
  intro i hi
  by_cases hr : i.fmt = .raw
  · exact (hall i hi).2.1 hr
  · have hdec := (formats_spec realOps w l h).2.2
    rcases hdec with hdec | hdec
    · simp only [List.all_eq_true, List.mem_filter, realOps] at hdec
      apply hdec i ⟨hi, ?_⟩
      simp only [bne_iff_ne, ne_eq]
      exact fun hn => hr (Fmt.eq_raw_of_name _ hn)
    · rw [hfin] at hdec; simp at hdec

/-- once `formats` has answered, one more `_process_chunk` — however it ends — changes nothing
    `formats` looks at: every inspector that is fed is complete and at a boundary, so it only counts
    the bytes (`lemma_eat_complete`) -/
theorem lemma_step_views (w : Wrap Insp) (hw : WInv w) (l : List Insp)
    (h : w.formats realOps = .ok (some l)) (c : Bytes) :
    (w.processChunk realOps c).1.insps.map view = w.insps.map view ∧
    (w.processChunk realOps c).1.errored = w.errored := by
  have hcomp := lemma_complete_at_decision w hw l h
  have heat : ∀ i ∈ w.insps, i.fmt.name ∉ w.errored →
      eatChunk i c = ({ i with total := i.total + c.length }, none) :=
    fun i hi hne => lemma_eat_complete i c (lemma_iok_good (hw.2 i hi) hne) (hcomp i hi)
  obtain ⟨d, news, o, heq, hnews, hp⟩ := processLoop_pointwise realOps w.expected c w.insps [] w.errored
  have hnil : news = [] := by
    apply List.eq_nil_iff_forall_not_mem.mpr
    intro n hn
    obtain ⟨a, ha, rfl, hne, hae⟩ := hnews n hn
    rw [show realOps.eat a c = eatChunk a c from rfl, heat a ha hne] at hae
    exact absurd hae (by simp)
  rw [processChunk_eq, heq, hnil]
  refine ⟨hp.map_eq view ?_, List.append_nil _⟩
  rintro a ha b (rfl | ⟨hne, rfl, _⟩)
  · rfl
  · rw [show realOps.eat a c = eatChunk a c from rfl, heat a ha hne]
    exact lemma_view_total a _

theorem lemma_step_inv (w : Wrap Insp) (hw : WInv w) (c : Bytes)
    (hd : (w.processChunk realOps c).2 = .done) : WInv (w.processChunk realOps c).1 := by
  obtain ⟨d, news, o, heq, _, hp⟩ := processLoop_pointwise realOps w.expected c w.insps [] w.errored
  rw [processChunk_eq, heq] at hd ⊢
  refine ⟨hw.1, fun j hj => ?_⟩
  obtain ⟨i, hi, hij⟩ := hp.mem_right j (by simpa using hj)
  have hsub : ∀ n ∈ w.errored, n ∈ w.errored ++ news := fun n hn => List.mem_append_left _ hn
  rcases hij with rfl | ⟨hne, rfl, hfed⟩
  · exact lemma_iok_mono (hw.2 j hi) hsub
  · rcases hfed with he | hin | ho
    · exact lemma_iok_mono (lemma_iok_eat_ok (hw.2 i hi) hne he) hsub
    · by_cases he : (eatChunk i c).2 = none
      · exact lemma_iok_mono (lemma_iok_eat_ok (hw.2 i hi) hne he) hsub
      · refine lemma_iok_mono (lemma_iok_eat_err (hw.2 i hi) hne he) (fun n hn => ?_)
        rcases List.mem_append.mp hn with hn | hn
        · exact hsub n hn
        · rw [List.mem_singleton.mp hn]; exact hin
    · exact absurd hd ho

/-- **decision_stable** — for a wrapper with no expected format over the inspectors of ANY of the
    ten formats (VHDX and VMDK included), in any state satisfying the invariant `WGood2` (which every
    fresh wrapper satisfies and every read preserves: `wrapper_good`, and the second conjunct
    here / `reads_total`): once `formats` has answered `some l` before EOF, reading one more chunk
    `c` — any bytes — returns normally, the invariant still holds, and `formats` answers `some` list
    with exactly the same format names in the same order (hence `format` gives the same answer or
    raises the same error).  No hypothesis on the stream or the chunking. -/
theorem decision_stable (w : Wrap Insp) (hw : WGood2 w) (l : List Insp)
    (h : w.formats realOps = .ok (some l)) (c : Bytes) :
    (w.processChunk realOps c).2 = .done ∧ WGood2 (w.processChunk realOps c).1 ∧
    namesOf ((w.processChunk realOps c).1.formats realOps) = .ok (some (l.map (·.fmt.name))) := by
  have hdone := nonexpected_fault_contained realOps realOps_nameStable w c hw.1
  obtain ⟨hv, _⟩ := lemma_step_views w hw.2 l h c
  refine ⟨hdone, ⟨hw.1, lemma_step_inv w hw.2 c hdone⟩, ?_⟩
  rw [formats_congr (w.processChunk realOps c).1 w hv rfl, h]
  rfl

/-- **decision_stable_expected** — the same for a wrapper WITH an expected format (any `w.expected`):
    once `formats` has answered before EOF, after one more `_process_chunk` — however it ends —
    `formats` answers the same names, the errored set is the same, and if the call returned normally
    (the only case in which the reader gets to read further) the invariant still holds. -/
theorem decision_stable_expected (w : Wrap Insp) (hw : WInv w) (l : List Insp)
    (h : w.formats realOps = .ok (some l)) (c : Bytes) :
    namesOf ((w.processChunk realOps c).1.formats realOps) = .ok (some (l.map (·.fmt.name))) ∧
    (w.processChunk realOps c).1.errored = w.errored ∧
    ((w.processChunk realOps c).2 = .done → WInv (w.processChunk realOps c).1) := by
  obtain ⟨hv, he⟩ := lemma_step_views w hw l h c
  refine ⟨?_, he, lemma_step_inv w hw c⟩
  rw [formats_congr (w.processChunk realOps c).1 w hv rfl, h]
  rfl

/-- **decision_stable_close** — `close()` (EOF, `_finish`) does not revise a decision reported
    before it either; any expected format, all ten formats. -/
theorem decision_stable_close (w : Wrap Insp) (hw : WInv w) (l : List Insp)
    (h : w.formats realOps = .ok (some l)) :
    namesOf ((w.finish realOps).formats realOps) = .ok (some (l.map (·.fmt.name))) := by
  have hcompl := lemma_complete_at_decision w hw l h
  obtain ⟨hfin, hall⟩ := hw
  have hviews : (w.finish realOps).insps.map view = w.insps.map view := by
    simp only [Wrap.finish, List.map_map]
    apply List.map_congr_left
    intro i hi
    exact lemma_finish_view_noEnd i fun p hp => (lemma_complete_noEnd i (hall i hi).1 (hcompl i hi) p hp).1
  have hcomp : (w.insps.filter (fun i => i.fmt.name != "raw")).all (fun i => i.complete) = true := by
    simp only [List.all_eq_true, List.mem_filter]
    intro i hi
    exact hcompl i hi.1
  have hn : namesOf (w.formats realOps) = .ok (some (l.map (fun i => i.fmt.name))) := by rw [h]; rfl
  -- every non-raw inspector is complete, so the answer does not look at the `finished` flag
  rw [formats_congr (w.finish realOps) { w with finished := true } hviews rfl]
  rw [lemma_namesOf_formats] at hn ⊢
  simp only [hcomp, Bool.not_true, Bool.false_and, Bool.false_eq_true, if_false] at hn ⊢
  exact hn

/-- **wrapper_inv** — every fresh wrapper (any expected format, any allowed_formats) satisfies the
    invariant -/
theorem wrapper_inv (expected : Option String) (allowed : List String) : WInv (Wrap.mk' expected allowed) := by
  refine ⟨rfl, ?_⟩
  intro i hi
  simp only [Wrap.mk', List.mem_filterMap] at hi
  obtain ⟨f, _, hinit⟩ := hi
  have hg := lemma_init_good2 f i hinit
  refine ⟨hg.quiet, fun hr => ?_, Or.inr hg⟩
  rw [lemma_init_eq hinit] at hr ⊢
  simp only at hr
  subst hr
  rfl

/-- **wrapper_good** — every fresh wrapper with no expected format satisfies `WGood2`, whatever
    `allowed_formats` is (`[]` = all ten formats) -/
theorem wrapper_good (allowed : List String) : WGood2 (Wrap.mk' none allowed) :=
  ⟨rfl, wrapper_inv none allowed⟩

/-- reading the chunks `cs` through the wrapper: the wrapper after the last one, or `none` if some
    `_process_chunk` did not return normally (then the reader never gets to read further) -/
def Wrap.readOk (w : Wrap Insp) : List Bytes → Option (Wrap Insp)
  | [] => some w
  | c :: cs =>
    match w.processChunk realOps c with
    | (w', .done) => Wrap.readOk w' cs
    | _ => none

theorem lemma_readOk_cons (w : Wrap Insp) (c : Bytes) (cs : List Bytes) :
    Wrap.readOk w (c :: cs) =
      if (w.processChunk realOps c).2 = .done then Wrap.readOk (w.processChunk realOps c).1 cs else none := by
  rw [Wrap.readOk]
  cases w.processChunk realOps c with
  | mk w' o => cases o <;> simp

theorem lemma_readOk_append (a : List Bytes) : ∀ (w : Wrap Insp) (b : List Bytes),
    Wrap.readOk w (a ++ b) = (Wrap.readOk w a).bind (fun w' => Wrap.readOk w' b) := by
  induction a with
  | nil => intro w b; rfl
  | cons c cs ih =>
    intro w b
    simp only [List.cons_append, lemma_readOk_cons]
    split
    · exact ih _ b
    · rfl

theorem lemma_readOk_induct (P : Wrap Insp → Prop)
    (hstep : ∀ w, P w → ∀ c, (w.processChunk realOps c).2 = .done → P (w.processChunk realOps c).1) :
    ∀ (cs : List Bytes) (w w' : Wrap Insp), P w → Wrap.readOk w cs = some w' → P w' := by
  intro cs
  induction cs with
  | nil => intro w w' hw hr; cases hr; exact hw
  | cons c cs ih =>
    intro w w' hw hr
    rw [lemma_readOk_cons] at hr
    split at hr
    · exact ih _ w' (hstep w hw c ‹_›) hr
    · cases hr

theorem lemma_pipe_readOk : ∀ (cs : List Bytes) (w w' : Wrap Insp) (out : List Bytes),
    Wrap.readOk w cs = some w' → Wrap.pipe realOps w cs out = (out.reverse ++ cs, w'.finish realOps, .done) := by
  intro cs
  induction cs with
  | nil => intro w w' out h; cases h; simp [Wrap.pipe]
  | cons c cs ih =>
    intro w w' out h
    rw [lemma_readOk_cons] at h
    rw [pipe_cons]
    split at h
    · rw [if_pos ‹_›, ih _ w' (c :: out) h]
      simp
    · cases h

/-- **readOk_is_pipe** — `readOk` is the model's reader: when it succeeds, `Wrap.pipe` (reading the
    whole source through the wrapper, then `close()`) hands all the chunks to the reader and ends,
    normally, in the wrapper `readOk` computed, closed. -/
theorem readOk_is_pipe (w w' : Wrap Insp) (cs : List Bytes) (h : Wrap.readOk w cs = some w') :
    Wrap.pipe realOps w cs [] = (cs, w'.finish realOps, .done) := by
  simpa using lemma_pipe_readOk cs w w' [] h

theorem lemma_namesOf_some (w : Wrap Insp) (ns : List String)
    (h : namesOf (w.formats realOps) = .ok (some ns)) :
    ∃ l, w.formats realOps = .ok (some l) ∧ l.map (·.fmt.name) = ns := by
  cases hf : w.formats realOps with
  | error e => rw [hf] at h; simp [namesOf] at h
  | ok o =>
    cases o with
    | none => rw [hf] at h; simp [namesOf] at h
    | some l =>
      rw [hf] at h
      simp only [namesOf, Except.ok.injEq, Option.some.injEq] at h
      exact ⟨l, rfl, h⟩

theorem lemma_reads_names (cs : List Bytes) (w w' : Wrap Insp) (ns : List String) (hw : WInv w)
    (h : namesOf (w.formats realOps) = .ok (some ns)) (hr : Wrap.readOk w cs = some w') :
    WInv w' ∧ namesOf (w'.formats realOps) = .ok (some ns) ∧ w'.errored = w.errored := by
  refine lemma_readOk_induct
    (fun v => WInv v ∧ namesOf (v.formats realOps) = .ok (some ns) ∧ v.errored = w.errored) ?_
    cs w w' ⟨hw, h, rfl⟩ hr
  intro v ⟨hv, hn, he⟩ c hd
  obtain ⟨l, hl, hns⟩ := lemma_namesOf_some v ns hn
  obtain ⟨h1, h2, h3⟩ := decision_stable_expected v hv l hl c
  exact ⟨h3 hd, hns ▸ h1, h2.trans he⟩

/-- **decision_stable_reads** — the lift to any number of further reads (any expected format): from
    a wrapper state satisfying the invariant in which `formats` has answered `some l` before EOF,
    after reading any further chunks `cs` (each processed normally, `readOk … = some w'`) `formats`
    still answers exactly the same names, and so it does after `close()`; the invariant holds and
    no further inspector has failed. -/
theorem decision_stable_reads (w : Wrap Insp) (hw : WInv w) (l : List Insp)
    (h : w.formats realOps = .ok (some l)) (cs : List Bytes) (w' : Wrap Insp)
    (hr : Wrap.readOk w cs = some w') :
    WInv w' ∧
    namesOf (w'.formats realOps) = .ok (some (l.map (·.fmt.name))) ∧
    namesOf ((w'.finish realOps).formats realOps) = .ok (some (l.map (·.fmt.name))) ∧
    w'.errored = w.errored := by
  have hn : namesOf (w.formats realOps) = .ok (some (l.map (·.fmt.name))) := by rw [h]; rfl
  obtain ⟨a, b, c⟩ := lemma_reads_names cs w w' _ hw hn hr
  obtain ⟨l', hl', hns⟩ := lemma_namesOf_some w' _ b
  refine ⟨a, b, ?_, c⟩
  rw [decision_stable_close w' a l' hl', hns]

/-- **reads_total** — with no expected format every read is processed normally, whatever the
    bytes: `readOk` always succeeds, and the invariant holds in the state it reaches. -/
theorem reads_total (cs : List Bytes) : ∀ (w : Wrap Insp), WGood2 w →
    ∃ w', Wrap.readOk w cs = some w' ∧ WGood2 w' := by
  induction cs with
  | nil => intro w hw; exact ⟨w, rfl, hw⟩
  | cons c cs ih =>
    intro w hw
    have hdone := nonexpected_fault_contained realOps realOps_nameStable w c hw.1
    rw [lemma_readOk_cons, if_pos hdone]
    exact ih _ ⟨hw.1, lemma_step_inv w hw.2 c hdone⟩

/-- **decision_never_revised** — the reachable-state corollary.  Take a fresh wrapper with no
    expected format over any `allowed_formats` (`[]` = all ten) and feed it ANY chunk list
    `pre ++ post`.  Every chunk is processed normally; and if at the boundary after `pre` `formats`
    answers `some l`, then at the boundary after `pre ++ post` — for every `post` — it answers
    exactly the same names, and so it does if the stream is closed there. -/
theorem decision_never_revised (allowed : List String) (pre post : List Bytes) :
    ∃ w1 w2, Wrap.readOk (Wrap.mk' none allowed) pre = some w1 ∧
      Wrap.readOk (Wrap.mk' none allowed) (pre ++ post) = some w2 ∧
      ∀ l, w1.formats realOps = .ok (some l) →
        namesOf (w2.formats realOps) = .ok (some (l.map (·.fmt.name))) ∧
        namesOf ((w2.finish realOps).formats realOps) = .ok (some (l.map (·.fmt.name))) := by
  obtain ⟨w1, h1, hg1⟩ := reads_total pre _ (wrapper_good allowed)
  obtain ⟨w2, h2, _⟩ := reads_total post w1 hg1
  refine ⟨w1, w2, h1, ?_, fun l hl => ?_⟩
  · rw [lemma_readOk_append, h1]; exact h2
  · obtain ⟨_, a, b, _⟩ := decision_stable_reads w1 hg1.2 l hl post w2 h2
    exact ⟨a, b⟩

/-- **decision_never_revised_expected** — the same for a fresh wrapper WITH an expected format: as
    long as the reads are processed normally (otherwise the reader gets an exception and reads no
    further), a decision reported at one boundary is reported unchanged at every later one and
    after `close()`. -/
theorem decision_never_revised_expected (expected : Option String) (allowed : List String)
    (pre post : List Bytes) (w1 w2 : Wrap Insp)
    (h1 : Wrap.readOk (Wrap.mk' expected allowed) pre = some w1) (h2 : Wrap.readOk w1 post = some w2)
    (l : List Insp) (hl : w1.formats realOps = .ok (some l)) :
    namesOf (w2.formats realOps) = .ok (some (l.map (·.fmt.name))) ∧
    namesOf ((w2.finish realOps).formats realOps) = .ok (some (l.map (·.fmt.name))) := by
  have hw1 := lemma_readOk_induct WInv lemma_step_inv pre _ w1 (wrapper_inv expected allowed) h1
  obtain ⟨_, a, b, _⟩ := decision_stable_reads w1 hw1 l hl post w2 h2
  exact ⟨a, b⟩

/-- the names `formats` answers, `none` when it answers `None` or raises (a decidable view, for the
    concrete examples) -/
def decidedNames (w : Wrap Insp) : Option (List String) :=
  match namesOf (w.formats realOps) with
  | .ok (some ns) => some ns
  | _ => none

theorem lemma_decidedNames (w : Wrap Insp) (ns : List String) (h : decidedNames w = some ns) :
    namesOf (w.formats realOps) = .ok (some ns) := by
  unfold decidedNames at h
  split at h
  · rename_i ns' heq
    simp only [Option.some.injEq] at h
    rw [heq, h]
  · simp at h

/-- stated on its own, to be rewritten before the literals are: inside `stableVmdkImage` the length
    is an argument of `-`, which the kernel evaluates as it stands (string literal included) when it
    checks a rewrite around it -/
theorem lemma_stableVmdkDescriptor_length : stableVmdkDescriptor.length = 86 := by
  unfold stableVmdkDescriptor
  rw [ascii_ofList]
  decide +kernel

/-- The hypotheses of `decision_stable` are met in a state with a region created while streaming:
    a wrapper over vmdk, qcow2, gpt and raw fed the 1024-byte sparse VMDK image in two reads
    (700 + 324 bytes).  After the first read nothing is decided; after the second the wrapper
    satisfies `WGood2`, the VMDK inspector holds the relocated descriptor region (identity 2, created
    by `post_process`), and `formats` answers `[vmdk]` — so by `decision_stable` every further read
    leaves that answer in place. -/
example :
    let w0 := Wrap.mk' none ["vmdk", "qcow2", "gpt", "raw"]
    (Wrap.readOk w0 [stableVmdkImage.take 700]).map decidedNames = some none ∧
    ∃ w1 l, Wrap.readOk w0 [stableVmdkImage.take 700, stableVmdkImage.drop 700] = some w1 ∧
      WGood2 w1 ∧ w1.formats realOps = .ok (some l) ∧ l.map (·.fmt.name) = ["vmdk"] ∧
      (w1.insps.any (fun i => i.fmt == .vmdk && i.regions.any (fun p => p.1 == "descriptor" && p.2.rid == 2))) = true := by
  intro w0
  -- both reads in one statement: they share the first chunk
  have hcomp : (Wrap.readOk w0 [stableVmdkImage.take 700]).map decidedNames = some none ∧
      (Wrap.readOk w0 [stableVmdkImage.take 700, stableVmdkImage.drop 700]).map
        (fun w => (decidedNames w,
          w.insps.any (fun i => i.fmt == .vmdk && i.regions.any (fun p => p.1 == "descriptor" && p.2.rid == 2)))) =
        some (some ["vmdk"], true) := by
    unfold stableVmdkImage
    rw [lemma_stableVmdkDescriptor_length]
    unfold stableVmdkDescriptor stableVmdkHeader
    rw [ascii_ofList, ascii_ofList]
    decide +kernel
  obtain ⟨w1, h1, hg⟩ := reads_total [stableVmdkImage.take 700, stableVmdkImage.drop 700] w0 (wrapper_good _)
  have hc := hcomp.2
  rw [h1] at hc
  simp only [Option.map_some, Option.some.injEq, Prod.mk.injEq] at hc
  obtain ⟨l, hl, hns⟩ := lemma_namesOf_some w1 _ (lemma_decidedNames w1 _ hc.1)
  exact ⟨hcomp.1, w1, l, h1, hg, hl, hns, hc.2⟩

/-- … and concretely: the same two reads followed by a third read of 5000 arbitrary-looking bytes
    and by `close()` — through a wrapper over ALL TEN formats the decision is not yet due after two
    reads (VHDX and ISO are incomplete), through the four-format wrapper it is `[vmdk]` before and
    after the third read, as `decision_never_revised` says it must be. -/
example :
    let cs : List Bytes := [stableVmdkImage.take 700, stableVmdkImage.drop 700]
    let extra : Bytes := (List.range 5000).map (fun n => UInt8.ofNat (n * 7 + 3))
    (Wrap.readOk (Wrap.mk' none []) cs).map decidedNames = some none ∧
    (Wrap.readOk (Wrap.mk' none ["vmdk", "qcow2", "gpt", "raw"]) cs).map decidedNames = some (some ["vmdk"]) ∧
    (Wrap.readOk (Wrap.mk' none ["vmdk", "qcow2", "gpt", "raw"]) (cs ++ [extra])).map decidedNames
      = some (some ["vmdk"]) ∧
    (Wrap.readOk (Wrap.mk' none ["vmdk", "qcow2", "gpt", "raw"]) (cs ++ [extra])).map
      (fun w => decidedNames (w.finish realOps)) = some (some ["vmdk"]) := by
  unfold stableVmdkImage
  rw [lemma_stableVmdkDescriptor_length]
  unfold stableVmdkDescriptor stableVmdkHeader
  rw [ascii_ofList, ascii_ofList]
  decide +kernel

/-! ### non-vacuity, VHDX (symbolic: the image is too long to evaluate in the kernel) -/

theorem lemma_readOk_single (chunks : List Bytes) : ∀ (s : Insp), (feed s chunks).2 = none →
    Wrap.readOk { insps := [s], errored := [], expected := none, finished := false } chunks =
      some { insps := [(feed s chunks).1], errored := [], expected := none, finished := false } := by
  induction chunks with
  | nil => intro s _; rfl
  | cons c cs ih =>
    intro s h
    rw [lemma_feed_cons] at h ⊢
    split at h
    · have hpc : Wrap.processChunk realOps
          ({ insps := [s], errored := [], expected := none, finished := false } : Wrap Insp) c =
          ({ insps := [(eatChunk s c).1], errored := [], expected := none, finished := false }, .done) := by
        rw [processChunk_eq, processLoop_none_eq realOps c _ _ _ (List.pairwise_singleton _ _)]
        simp [stepI, newErr, realOps, ‹(eatChunk s c).2 = none›]
      rw [if_pos ‹_›, lemma_readOk_cons, hpc, if_pos rfl]
      exact ih _ h
    · exact absurd h ‹_›

theorem lemma_vhdx_noEnd (st : Insp) (hf : st.fmt = .vhdx) (h : SInv st) : ∀ p ∈ st.regions, p.2.isEnd = false := by
  intro p hp
  cases hE : p.2.isEnd
  · rfl
  · obtain ⟨hal, _, _, hft⟩ := h.each p hp
    have := (hft hE).2
    rw [hf, this] at hal
    exact absurd hal (by decide)

/-- The hypotheses are met by a VHDX image too, in EVERY chunking: a wrapper over the VHDX inspector
    fed the 262 216-byte sample image of Lemmas/VhdxSample.lean (declared size 1 GiB) in any chunk
    list reaches a state satisfying `WGood2` in which `formats` answers `[vhdx]` and the inspector
    holds the `vds` region created while streaming — so `decision_stable` applies to it. -/
example (chunks : List Bytes) (h : chunks.flatten = vhdxSample [0, 0, 0, 64, 0, 0, 0, 0]) :
    ∃ w1 l, Wrap.readOk (Wrap.mk' none ["vhdx"]) chunks = some w1 ∧ WGood2 w1 ∧
      w1.formats realOps = .ok (some l) ∧ l.map (·.fmt.name) = ["vhdx"] ∧
      (l.all (fun i => i.hasRegion "vds")) = true := by
  have hw0 : Wrap.mk' none ["vhdx"] = { insps := [stA []], errored := [], expected := none, finished := false } := by
    have : Fmt.all.filter (fun f => Gen.allFormats.contains f.name &&
        ((["vhdx"] : List String).isEmpty || (["vhdx"] : List String).contains f.name)) = [.vhdx] := by decide
    simp only [Wrap.mk', this, List.filterMap_cons, lemma_init_vhdx, List.filterMap_nil]
  have hyp := vhdx_hyps_of_image _ _ _ _ _ _ _ (lemma_sample_image [0, 0, 0, 64, 0, 0, 0, 0] rfl)
  have e1 := vhdx_chunk_independent_partial (stA []) lemma_init_vhdx chunks (h ▸ hyp.1) (h ▸ hyp.2)
  rw [h, vhdx_sample_spec _ rfl] at e1
  have hnone : (feed (stA []) chunks).2 = none := congrArg Verdict.raised e1
  have hcompF : (feed (stA []) chunks).1.finish.complete = true := congrArg Verdict.complete e1
  have hmatchF : formatMatch (feed (stA []) chunks).1.finish = .ok true := congrArg Verdict.fmtMatch e1
  have hvsF : virtualSize (feed (stA []) chunks).1.finish = .ok 1073741824 := congrArg Verdict.vsize e1
  -- the state before `finish()`
  have hA := lemma_feed_acts (stA []) chunks
  have hsinv := hA.sinv (init_inv .vhdx (stA []) lemma_init_vhdx)
  have hfmt : (feed (stA []) chunks).1.fmt = .vhdx := hA.fmt_eq
  generalize hst : (feed (stA []) chunks).1 = st at *
  have hne := lemma_vhdx_noEnd st hfmt hsinv
  have hreg := lemma_finish_regions st hne
  have hv := lemma_finish_view_noEnd st hne
  have hcomp : st.complete = true := (congrArg (·.2.1) hv).symm.trans hcompF
  have hmatch : formatMatch st = .ok true := (congrArg (·.2.2) hv).symm.trans hmatchF
  have hvds : st.hasRegion "vds" = true := by
    simp only [virtualSize, show st.finish.fmt = .vhdx from hfmt, hreg] at hvsF
    unfold Insp.hasRegion
    cases hl : lookupR "vds" st.regions with
    | none => rw [hl] at hvsF; simp at hvsF
    | some v => rfl
  have hread := lemma_readOk_single chunks (stA []) hnone
  rw [hst] at hread
  obtain ⟨w1, h1, hg⟩ := reads_total chunks _ (wrapper_good ["vhdx"])
  rw [hw0, hread] at h1
  simp only [Option.some.injEq] at h1
  subst h1
  refine ⟨_, [st], by rw [hw0]; exact hread, hg, ?_, by simp [hfmt, Fmt.name], by simp [hvds]⟩
  have hname : (st.fmt.name != "raw") = true := by rw [hfmt]; decide
  simp [Wrap.formats, realOps, matchList, hname, hcomp, hmatch, bind, Except.bind, pure, Except.pure]

end Oslo.Insp
