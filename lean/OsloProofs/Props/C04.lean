/-
C04 — mask_password hides every supported secret and changes nothing else.

The model is OsloModel/Mask.lean over the *generated* tables
(OsloModel/Generated/Mask.lean, written from the live strutils on every run).
The lemmas about the regex engine, about keys and about the loop over the keys are in
OsloProofs/Lemmas/C04Flat.lean and C04Mask.lean; the `lemma_*` here are about the twelve templates.
-/
import OsloModel.Mask
import OsloProofs.Lemmas.C04Flat
import OsloProofs.Lemmas.C04Mask
namespace Oslo.Mask
open Oslo.Flat

/-- the 35 keys named by the property (strutils.py:69-79 at the pinned commit) -/
def specKeys : List String :=
  ["adminpass", "admin_pass", "password", "admin_password", "auth_token", "new_pass", "auth_password",
   "secret_uuid", "secret", "sys_pswd", "token", "configdrive", "chappassword", "encrypted_key",
   "private_key", "fernetkey", "sslkey", "passphrase", "cephclusterfsid", "octaviaheartbeatkey",
   "rabbitcookie", "cephmanilaclientkey", "pacemakerremoteauthkey", "designaterndckey", "cephadminkey",
   "heatauthencryptionkey", "cephclientkey", "keystonecredential", "barbicansimplecryptokek", "cephrgwkey",
   "swifthashsuffix", "migrationsshkey", "cephmdskey", "cephmonkey", "chapsecret"]

theorem lemma_specKeys_eq : specKeys.map String.toList = Gen.sanitizeKeys := by
  simp only [specKeys, List.map]
  -- a literal is `String.ofList […]`: rewriting `toList` away spares the kernel the UTF-8 round trip
  repeat rw [String.toList_ofList]
  rfl

/-- every key the property names is in the list the code uses -/
theorem sanitize_keys_cover_spec : ∀ k ∈ specKeys, k.toList ∈ Gen.sanitizeKeys :=
  fun _ hk => lemma_specKeys_eq ▸ List.mem_map_of_mem hk

/-! The reviewed templates: what the twelve patterns of strutils.py:91-108 compile to, with the key
abstracted, case-insensitivity folded in and `\s` = `Gen.wsRanges`.  The code points above ASCII are what
`re.IGNORECASE` adds: 304/305 (İ, ı) to `i`, 8490 (the Kelvin sign) to `k`, 383 (ſ) to `s`. -/

def digitC : Cls := cls [(48, 57)]                                   -- [0-9]
def wsC : Cls := cls Gen.wsRanges                                     -- \s
def eqC : Cls := cls [(61, 61)]                                       -- [=]
def quoteC : Cls := cls [(34, 34), (39, 39)]                          -- ["']
def dqC : Cls := cls [(34, 34)]
def sqC : Cls := cls [(39, 39)]
def nquoteC : Cls := ncls [(34, 34), (39, 39)]                        -- [^"']
def bareC : Cls := ncls (Gen.wsRanges ++ [(34, 34), (39, 39)])        -- [^\s'"]
def dashValC : Cls := ncls (Gen.wsRanges ++ [(34, 34), (39, 39), (61, 61)])  -- [^'"=\s]
def dashC : Cls := cls [(45, 45)]
def uC : Cls := cls [(85, 85), (117, 117)]                            -- u under IGNORECASE
def flagC : Cls := cls [(65, 122), (304, 305), (383, 383), (8490, 8490)]  -- [A-z] under IGNORECASE
def colonC : Cls := cls [(58, 58)]
def commaC : Cls := cls [(44, 44)]
def ltC : Cls := cls [(60, 60)]
def gtC : Cls := cls [(62, 62)]
def slashC : Cls := cls [(47, 47)]
def nltC : Cls := ncls [(60, 60)]                                     -- [^<]
def nwsC : Cls := ncls Gen.wsRanges                                   -- \S
def ndqC : Cls := ncls [(34, 34)]                                     -- [^"]
def nsqC : Cls := ncls [(39, 39)]                                     -- [^']

def tplEqQuoted : Template := ⟨[.key, star digitC, star wsC, one eqC, star wsC, one quoteC], [star nquoteC], [one quoteC]⟩
def tplEqDq : Template := ⟨[.key, star digitC, star wsC, one eqC, star wsC, one dqC], [star (ncls [(34, 34)])], [one dqC]⟩
def tplEqSq : Template := ⟨[.key, star digitC, star wsC, one eqC, star wsC, one sqC], [star (ncls [(39, 39)])], [one sqC]⟩
def tplKeyQuoted : Template := ⟨[.key, star digitC, plus wsC, one quoteC], [star nquoteC], [one quoteC]⟩
def tplDashDash : Template := ⟨[rep dashC 2 (some 2), .key, star digitC, plus wsC], [plus dashValC], [star wsC]⟩
def tplXml : Template := ⟨[one ltC, .key, star digitC, one gtC], [star (ncls [(60, 60)])],
                          [one ltC, one slashC, .key, star digitC, one gtC]⟩
def tplColonQuoted : Template :=
  ⟨[one quoteC, .key, star digitC, one quoteC, star wsC, one colonC, star wsC, one quoteC], [star nquoteC], [one quoteC]⟩
def tplColonPrefixed : Template :=
  ⟨[one quoteC, star nquoteC, .key, star digitC, one quoteC, star wsC, one colonC, star wsC, opt uC, one quoteC],
   [star nquoteC], [one quoteC]⟩
def tplCmdList : Template :=
  ⟨[one quoteC, star nquoteC, .key, star digitC, one quoteC, star wsC, one commaC, star wsC, one sqC, one dashC,
    opt dashC, plus flagC, one sqC, star wsC, one commaC, star wsC, opt uC, one quoteC],
   [star nquoteC], [one quoteC]⟩
def tplCmdFlag : Template :=
  ⟨[.key, star digitC, star wsC, one dashC, opt dashC, plus flagC, star wsC], [plus (ncls Gen.wsRanges)], [star wsC]⟩
def tplEqBare : Template := ⟨[.key, star digitC, star wsC, one eqC, star wsC], [plus bareC], []⟩
def tplWildcard : Template :=
  ⟨[one quoteC, star nquoteC, .key, star digitC, one quoteC, star wsC, one colonC, star wsC, opt uC, one quoteC,
    star (ncls []), one quoteC],
   [star nquoteC], [one quoteC]⟩

/-- the generated templates (from the live compiled patterns) are the reviewed ones, in the code's order;
    an edited, added, removed or reordered pattern breaks this -/
theorem templates_as_reviewed :
    Gen.patterns2 = [tplEqQuoted, tplEqDq, tplEqSq, tplKeyQuoted, tplDashDash, tplXml, tplColonQuoted,
                     tplColonPrefixed, tplCmdList, tplCmdFlag] ∧
    Gen.patterns1 = [tplEqBare] ∧ Gen.patternsWildcard = [tplWildcard] ∧
    Gen.ignoreCase = true ∧ Gen.foldExtra = [(105, [304, 305]), (107, [8490]), (115, [383])] := by
  decide +kernel

/-- a message in whose lower-casing no sanitize key occurs is returned unchanged (every message, every mask) -/
theorem mask_nokey_id (msg mask : List Char)
    (h : ∀ key ∈ Gen.sanitizeKeys, isInfix key (pyLower msg) = false) : maskPassword msg mask = msg :=
  foldl_maskStep_fixed mask msg _ fun key hk => maskStep_absent (h key hk)

example : ∀ key ∈ Gen.sanitizeKeys, isInfix key (pyLower "user=bob pass word=1 ſecret=2".toList) = false := by
  rw [String.toList_ofList]
  decide +kernel

/-! ### character classes

Which classes have no character in common is read off the range tables (`Cls.excludes`). -/

theorem lemma_nquote (a : Char) : nquoteC.test a = !quoteC.test a := test_ncls _ a

theorem lemma_noquote {qc : Cls} (hx : qc.excludes nquoteC = true) {a : Char} (h : quoteC.test a = false) :
    qc.test a = false := by
  cases hc : qc.test a with
  | false => rfl
  | true => have := Cls.excludes_sound hx hc; rw [lemma_nquote, h] at this; cases this

theorem lemma_excl_quote_nquote : quoteC.excludes nquoteC = true := by decide
theorem lemma_excl_quote_ws : quoteC.excludes wsC = true := by decide
theorem lemma_excl_ws_digit : wsC.excludes digitC = true := by decide
theorem lemma_excl_quote_digit : quoteC.excludes digitC = true := by decide
theorem lemma_excl_dash_digit : dashC.excludes digitC = true := by decide
theorem lemma_excl_dash_ws : dashC.excludes wsC = true := by decide
theorem lemma_excl_dq_ws : dqC.excludes wsC = true := by decide
theorem lemma_excl_sq_ws : sqC.excludes wsC = true := by decide
theorem lemma_excl_flag_dash : flagC.excludes dashC = true := by decide
theorem lemma_excl_digit_quote : digitC.excludes quoteC = true := by decide
theorem lemma_excl_u_ws : uC.excludes wsC = true := by decide
theorem lemma_excl_quote_u : quoteC.excludes uC = true := by decide
theorem lemma_excl_ws_quote : wsC.excludes quoteC = true := by decide
theorem lemma_excl_bare_quote : bareC.excludes quoteC = true := by decide
theorem lemma_excl_dq_nquote : dqC.excludes nquoteC = true := by decide
theorem lemma_excl_sq_nquote : sqC.excludes nquoteC = true := by decide

theorem lemma_dq_not_ws (c : Char) (h : dqC.test c = true) : wsC.test c = false :=
  Cls.excludes_sound lemma_excl_dq_ws h

theorem lemma_sq_not_ws (c : Char) (h : sqC.test c = true) : wsC.test c = false :=
  Cls.excludes_sound lemma_excl_sq_ws h


/-- **Rendering `key = value` (bare), one pattern.**  For every key `K`, every spelling `K'` of it that the
compiled pattern accepts (any letter case, and the non-ASCII characters IGNORECASE equates), every digit
suffix, any whitespace around `=`, every non-empty secret over the value class of the generated template
(`[^\s'"]`, so regex metacharacters, `=`, `^`, non-ASCII … included), every mask, every prefix in which the
key does not start before the rendering, every suffix that does not continue the value and does not contain
the key: `re.sub` of the `_FORMAT_PATTERNS_1` pattern of `K` replaces exactly the value by the mask.

This is the statement about the *one* substitution that is responsible for the rendering, at full generality
in key, spelling, secret, mask and surroundings (`matchSeq_of_greedy` for the match, `subAux_prefix` for the
prefix, `subPat_noKey` for the suffix).  `mask_rendering_eq_bare_partial` below lifts it to `mask_password` as a
whole. -/
theorem sub_rendering_eq_bare (K K' ds w1 w2 secret pre post mask : List Char)
    (hK : keyMatch K K' = true) (hds : ∀ c ∈ ds, digitC.test c = true) (hw1 : ∀ c ∈ w1, wsC.test c = true)
    (hw2 : ∀ c ∈ w2, wsC.test c = true) (hsec : secret ≠ []) (hsecV : ∀ c ∈ secret, bareC.test c = true)
    (hpost : ∀ c, post.head? = some c → bareC.test c = false)
    (hpre : ∀ j, j < pre.length →
      keyPrefix K (pre.drop j ++ (K' ++ ds ++ w1 ++ ['='] ++ w2 ++ secret ++ post)) = false)
    (hpostK : occursCI K post = false) :
    subPat (tplEqBare.inst (keyItems K)) rep1 mask (pre ++ (K' ++ ds ++ w1 ++ ['='] ++ w2 ++ secret ++ post))
      = pre ++ (K' ++ ds ++ w1 ++ ['='] ++ w2 ++ mask ++ post) :=
  subPat_rendering1 (by simp)
    (fun j hj => matchPat_none_of_keyPrefix rfl (hpre j hj))
    (by
      simp only [List.append_assoc, List.cons_append, List.nil_append]
      exact matchPat_of_greedy
        (.key hK <| .star hds (.append hw1 lemma_excl_ws_digit fun _ => .cons (by decide)) <| .star hw1 (.cons (by decide)) <|
          .one (by decide) <| .star hw2 (.append hsecV (by decide) (absurd · hsec)) (.nil _))
        (.plus hsec hsecV hpost (.nil _)) (.nil _))
    (subPat_noKey tplEqBare rep1 K mask post (by decide) hpostK)

/-- non-vacuity: a concrete instance of every hypothesis (mixed-case key with a digit suffix, a secret made of
    regex metacharacters and a non-ASCII case-fold character, neutral surroundings) -/
example :
    let K := "password".toList; let K' := "PassWord".toList; let ds := "12".toList
    let w1 := " ".toList; let w2 : List Char := []; let secret := "a^b$c.*ſ=".toList
    let pre := "user=x pass ".toList; let post := " and more".toList
    keyMatch K K' = true ∧ (∀ c ∈ ds, digitC.test c = true) ∧ (∀ c ∈ w1, wsC.test c = true) ∧
    (∀ c ∈ w2, wsC.test c = true) ∧ secret ≠ [] ∧ (∀ c ∈ secret, bareC.test c = true) ∧
    (∀ c, post.head? = some c → bareC.test c = false) ∧
    (∀ j, j < pre.length → keyPrefix K (pre.drop j ++ (K' ++ ds ++ w1 ++ ['='] ++ w2 ++ secret ++ post)) = false) ∧
    occursCI K post = false := by
  repeat rw [String.toList_ofList]
  decide +kernel

/-- … and the whole model on that message (all patterns of all keys) -/
example : maskPassword "user=x pass PassWord12 =a^b$c.*ſ= and more".toList "***".toList
    = "user=x pass PassWord12 =*** and more".toList := by
  repeat rw [String.toList_ofList]
  decide +kernel

/-- the same substitution applied to an already masked `key=value` message changes nothing, for every
    non-empty mask over the value class -/
theorem sub_idempotent_on_masked_eq_bare (K K' ds w1 w2 pre post mask : List Char)
    (hK : keyMatch K K' = true) (hds : ∀ c ∈ ds, digitC.test c = true) (hw1 : ∀ c ∈ w1, wsC.test c = true)
    (hw2 : ∀ c ∈ w2, wsC.test c = true) (hmask : mask ≠ []) (hmaskV : ∀ c ∈ mask, bareC.test c = true)
    (hpost : ∀ c, post.head? = some c → bareC.test c = false)
    (hpre : ∀ j, j < pre.length →
      keyPrefix K (pre.drop j ++ (K' ++ ds ++ w1 ++ ['='] ++ w2 ++ mask ++ post)) = false)
    (hpostK : occursCI K post = false) :
    subPat (tplEqBare.inst (keyItems K)) rep1 mask (pre ++ (K' ++ ds ++ w1 ++ ['='] ++ w2 ++ mask ++ post))
      = pre ++ (K' ++ ds ++ w1 ++ ['='] ++ w2 ++ mask ++ post) :=
  sub_rendering_eq_bare K K' ds w1 w2 mask pre post mask hK hds hw1 hw2 hmask hmaskV hpost hpre hpostK

/-! ### the other renderings: one substitution each, full generality

From here to `mask_rendering_cmd_list_partial` every theorem (`sub_rendering_eq_quoted` and the
`mask_rendering_<r>_partial`) is a statement about `subPat`: the *one* `re.sub` that is responsible for the
rendering `r`, at full generality in key, spelling, digit suffix, whitespace, quotes, secret (over the value
class of the generated template), mask and surroundings.  There `_partial` = *one pattern only* (in the two
theorems about `maskPassword` further down it stands for the restrictions their docstrings list): what is missing with
respect to `mask_password` as a whole is that the other eleven patterns of the key and the patterns of the other
keys present leave the message alone (they do not in the listed classes KF_C04_WILDCARD / KF_C04_FLAGVALUE /
KF_C04_NESTED).  For the bare `key=value` and the quoted `key="value"` renderings that lift is done
(`mask_rendering_eq_bare_partial`, `mask_rendering_eq_quoted_partial`); for the others the composition is covered by
the correspondence and the failing-input search only.

Every proof has the same shape (`subPat_rendering2`, for `xml` `subPat_rendering`): no match starts in the prefix because the key does not start
there (or a quote is missing), the match at the rendering is the greedy split, written out item by item, and the
suffix does not contain the key. -/

theorem lemma_rendering_eq_quoted_by (qc vc : Cls) {K K' ds w1 w2 secret pre post mask : List Char} {q1 q2 : Char}
    (hK : keyMatch K K' = true) (hds : ∀ c ∈ ds, digitC.test c = true) (hw1 : ∀ c ∈ w1, wsC.test c = true)
    (hw2 : ∀ c ∈ w2, wsC.test c = true) (hq1 : qc.test q1 = true) (hqw : qc.excludes wsC = true)
    (hq2 : qc.test q2 = true) (hqv : qc.excludes vc = true) (hsecV : ∀ c ∈ secret, vc.test c = true)
    (hpre : ∀ j, j < pre.length → keyPrefix K (pre.drop j ++
      (K' ++ ds ++ w1 ++ ['='] ++ w2 ++ [q1] ++ secret ++ [q2] ++ post)) = false)
    (hpostK : occursCI K post = false) :
    subPat ((⟨[.key, star digitC, star wsC, one eqC, star wsC, one qc], [star vc], [one qc]⟩ : Template).inst
        (keyItems K)) rep2 mask (pre ++ (K' ++ ds ++ w1 ++ ['='] ++ w2 ++ [q1] ++ secret ++ [q2] ++ post))
      = pre ++ (K' ++ ds ++ w1 ++ ['='] ++ w2 ++ [q1] ++ mask ++ [q2] ++ post) :=
  subPat_rendering2 (by simp) (fun j hj => matchPat_none_of_keyPrefix rfl (hpre j hj))
    (by
      simp only [List.append_assoc, List.cons_append, List.nil_append]
      exact matchPat_of_greedy
        (.key hK <| .star hds (.append hw1 lemma_excl_ws_digit fun _ => .cons (by decide)) <| .star hw1 (.cons (by decide)) <|
          .one (by decide) <| .star hw2 (.cons_of hq1 hqw) <| .one hq1 (.nil _))
        (.star hsecV (.cons_of hq2 hqv) (.nil _)) (.one hq2 (.nil _)))
    (subPat_noKey _ rep2 K mask post (by simp) hpostK)

/-- **Rendering `key = "value"` / `key = 'value'`, the pattern `_FORMAT_PATTERNS_2[0]`.**  For every key, every
spelling of it the pattern accepts, digit suffix, whitespace around `=`, opening and closing quote (either kind,
not necessarily the same), every secret over the value class of the generated template (`[^"']*`: spaces,
Unicode whitespace, `=`, `<`, regex metacharacters, the empty secret included), every mask, every prefix in
which the key does not start before the rendering and every suffix that does not contain the key: this one
`re.sub` replaces exactly the value by the mask (full generality for the one substitution; the other patterns
and keys are not part of this statement). -/
theorem sub_rendering_eq_quoted (K K' ds w1 w2 secret pre post mask : List Char) (q1 q2 : Char)
    (hK : keyMatch K K' = true) (hds : ∀ c ∈ ds, digitC.test c = true) (hw1 : ∀ c ∈ w1, wsC.test c = true)
    (hw2 : ∀ c ∈ w2, wsC.test c = true) (hq1 : quoteC.test q1 = true) (hq2 : quoteC.test q2 = true)
    (hsecV : ∀ c ∈ secret, nquoteC.test c = true)
    (hpre : ∀ j, j < pre.length → keyPrefix K (pre.drop j ++
      (K' ++ ds ++ w1 ++ ['='] ++ w2 ++ [q1] ++ secret ++ [q2] ++ post)) = false)
    (hpostK : occursCI K post = false) :
    subPat (tplEqQuoted.inst (keyItems K)) rep2 mask
      (pre ++ (K' ++ ds ++ w1 ++ ['='] ++ w2 ++ [q1] ++ secret ++ [q2] ++ post))
      = pre ++ (K' ++ ds ++ w1 ++ ['='] ++ w2 ++ [q1] ++ mask ++ [q2] ++ post) :=
  lemma_rendering_eq_quoted_by quoteC nquoteC hK hds hw1 hw2 hq1 lemma_excl_quote_ws hq2 lemma_excl_quote_nquote hsecV hpre hpostK

/-- `key = "***"` stays as it is under the eq_quoted substitution, for every mask over `[^"']*` -/
theorem sub_idempotent_on_masked_eq_quoted (K K' ds w1 w2 pre post mask : List Char) (q1 q2 : Char)
    (hK : keyMatch K K' = true) (hds : ∀ c ∈ ds, digitC.test c = true) (hw1 : ∀ c ∈ w1, wsC.test c = true)
    (hw2 : ∀ c ∈ w2, wsC.test c = true) (hq1 : quoteC.test q1 = true) (hq2 : quoteC.test q2 = true)
    (hmaskV : ∀ c ∈ mask, nquoteC.test c = true)
    (hpre : ∀ j, j < pre.length → keyPrefix K (pre.drop j ++
      (K' ++ ds ++ w1 ++ ['='] ++ w2 ++ [q1] ++ mask ++ [q2] ++ post)) = false)
    (hpostK : occursCI K post = false) :
    subPat (tplEqQuoted.inst (keyItems K)) rep2 mask
      (pre ++ (K' ++ ds ++ w1 ++ ['='] ++ w2 ++ [q1] ++ mask ++ [q2] ++ post))
      = pre ++ (K' ++ ds ++ w1 ++ ['='] ++ w2 ++ [q1] ++ mask ++ [q2] ++ post) :=
  sub_rendering_eq_quoted K K' ds w1 w2 mask pre post mask q1 q2 hK hds hw1 hw2 hq1 hq2 hmaskV hpre hpostK

/-- **Rendering `key = "value"`, the pattern `_FORMAT_PATTERNS_2[1]`** (one substitution; secret over `[^"]*`, so
single quotes allowed) -/
theorem mask_rendering_eq_dquoted_partial (K K' ds w1 w2 secret pre post mask : List Char)
    (hK : keyMatch K K' = true) (hds : ∀ c ∈ ds, digitC.test c = true) (hw1 : ∀ c ∈ w1, wsC.test c = true)
    (hw2 : ∀ c ∈ w2, wsC.test c = true) (hsecV : ∀ c ∈ secret, ndqC.test c = true)
    (hpre : ∀ j, j < pre.length → keyPrefix K (pre.drop j ++
      (K' ++ ds ++ w1 ++ ['='] ++ w2 ++ ['"'] ++ secret ++ ['"'] ++ post)) = false)
    (hpostK : occursCI K post = false) :
    subPat (tplEqDq.inst (keyItems K)) rep2 mask
      (pre ++ (K' ++ ds ++ w1 ++ ['='] ++ w2 ++ ['"'] ++ secret ++ ['"'] ++ post))
      = pre ++ (K' ++ ds ++ w1 ++ ['='] ++ w2 ++ ['"'] ++ mask ++ ['"'] ++ post) :=
  lemma_rendering_eq_quoted_by dqC ndqC hK hds hw1 hw2 (by decide) lemma_excl_dq_ws (by decide) (by decide) hsecV hpre hpostK

/-- **Rendering `key = 'value'`, the pattern `_FORMAT_PATTERNS_2[2]`** (one substitution; secret over `[^']*`, so
double quotes allowed) -/
theorem mask_rendering_eq_squoted_partial (K K' ds w1 w2 secret pre post mask : List Char)
    (hK : keyMatch K K' = true) (hds : ∀ c ∈ ds, digitC.test c = true) (hw1 : ∀ c ∈ w1, wsC.test c = true)
    (hw2 : ∀ c ∈ w2, wsC.test c = true) (hsecV : ∀ c ∈ secret, nsqC.test c = true)
    (hpre : ∀ j, j < pre.length → keyPrefix K (pre.drop j ++
      (K' ++ ds ++ w1 ++ ['='] ++ w2 ++ ['\''] ++ secret ++ ['\''] ++ post)) = false)
    (hpostK : occursCI K post = false) :
    subPat (tplEqSq.inst (keyItems K)) rep2 mask
      (pre ++ (K' ++ ds ++ w1 ++ ['='] ++ w2 ++ ['\''] ++ secret ++ ['\''] ++ post))
      = pre ++ (K' ++ ds ++ w1 ++ ['='] ++ w2 ++ ['\''] ++ mask ++ ['\''] ++ post) :=
  lemma_rendering_eq_quoted_by sqC nsqC hK hds hw1 hw2 (by decide) lemma_excl_sq_ws (by decide) (by decide) hsecV hpre hpostK

/-- **Rendering `key "value"`, the pattern `_FORMAT_PATTERNS_2[3]`** (one substitution, full generality: any key,
spelling, digit suffix, non-empty whitespace, either quote on either side, every secret over `[^"']*`) -/
theorem mask_rendering_key_quoted_partial (K K' ds w1 secret pre post mask : List Char) (q1 q2 : Char)
    (hK : keyMatch K K' = true) (hds : ∀ c ∈ ds, digitC.test c = true) (hw1 : ∀ c ∈ w1, wsC.test c = true)
    (hw1ne : w1 ≠ []) (hq1 : quoteC.test q1 = true) (hq2 : quoteC.test q2 = true)
    (hsecV : ∀ c ∈ secret, nquoteC.test c = true)
    (hpre : ∀ j, j < pre.length → keyPrefix K (pre.drop j ++
      (K' ++ ds ++ w1 ++ [q1] ++ secret ++ [q2] ++ post)) = false)
    (hpostK : occursCI K post = false) :
    subPat (tplKeyQuoted.inst (keyItems K)) rep2 mask (pre ++ (K' ++ ds ++ w1 ++ [q1] ++ secret ++ [q2] ++ post))
      = pre ++ (K' ++ ds ++ w1 ++ [q1] ++ mask ++ [q2] ++ post) :=
  subPat_rendering2 (by simp)
    (fun j hj => matchPat_none_of_keyPrefix rfl (hpre j hj))
    (by
      simp only [List.append_assoc, List.cons_append, List.nil_append]
      exact matchPat_of_greedy
        (.key hK <| .star hds (.append hw1 lemma_excl_ws_digit (absurd · hw1ne)) <| .plus hw1ne hw1 (.cons_of hq1 lemma_excl_quote_ws) <|
          .one hq1 (.nil _))
        (.star hsecV (.cons_of hq2 lemma_excl_quote_nquote) (.nil _)) (.one hq2 (.nil _)))
    (subPat_noKey tplKeyQuoted rep2 K mask post (by decide) hpostK)

/-- **Rendering `--key value`, the pattern `_FORMAT_PATTERNS_2[4]`** (one substitution, full generality: any key,
spelling, digit suffix, non-empty whitespace, every non-empty secret over the value class of the generated
template `[^'"=\s]`, trailing whitespace kept) -/
theorem mask_rendering_dashdash_partial (K K' dd ds w1 secret w3 pre post mask : List Char)
    (hK : keyMatch K K' = true) (hdd : ∀ c ∈ dd, dashC.test c = true) (hddlen : dd.length = 2)
    (hds : ∀ c ∈ ds, digitC.test c = true) (hw1 : ∀ c ∈ w1, wsC.test c = true) (hw1ne : w1 ≠ [])
    (hsec : secret ≠ []) (hsecV : ∀ c ∈ secret, dashValC.test c = true)
    (hw3 : ∀ c ∈ w3, wsC.test c = true)
    (hstop : ∀ c, post.head? = some c → wsC.test c = false ∧ (w3 = [] → dashValC.test c = false))
    (hpre : ∀ j, j < pre.length → keyPrefix K ((pre.drop j ++
      (dd ++ K' ++ ds ++ w1 ++ secret ++ w3 ++ post)).drop 2) = false)
    (hpostK : occursCI K post = false) :
    subPat (tplDashDash.inst (keyItems K)) rep2 mask (pre ++ (dd ++ K' ++ ds ++ w1 ++ secret ++ w3 ++ post))
      = pre ++ (dd ++ K' ++ ds ++ w1 ++ mask ++ w3 ++ post) :=
  subPat_rendering2 (by simp [hsec])
    (fun j hj => matchPat_none_of_keyAfter rfl rfl rfl (hpre j hj))
    (by
      simp only [List.append_assoc]
      exact matchPat_of_greedy
        (.exact hdd hddlen <| .key hK <| .star hds (.append hw1 lemma_excl_ws_digit (absurd · hw1ne)) <|
          .plus hw1ne hw1 (.append hsecV (by decide) (absurd · hsec)) (.nil _))
        (.plus hsec hsecV (.append hw3 (by decide) fun h c hc => (hstop c hc).2 h) (.nil _))
        (.star hw3 (fun c hc => (hstop c hc).1) (.nil _)))
    (subPat_noKey tplDashDash rep2 K mask post (by decide) hpostK)

/-- **Rendering `<key>value</key>`, the pattern `_FORMAT_PATTERNS_2[5]`** (one substitution, full generality: any
key, independent spellings and digit suffixes in the two tags, every secret over `[^<]*` — quotes, spaces,
`=`, `>` included) -/
theorem mask_rendering_xml_partial (K K' K'' ds ds' secret pre post mask : List Char)
    (hK : keyMatch K K' = true) (hK2 : keyMatch K K'' = true)
    (hds : ∀ c ∈ ds, digitC.test c = true) (hds' : ∀ c ∈ ds', digitC.test c = true)
    (hsecV : ∀ c ∈ secret, nltC.test c = true)
    (hpre : ∀ j, j < pre.length → keyPrefix K ((pre.drop j ++
      (['<'] ++ K' ++ ds ++ ['>'] ++ secret ++ ['<', '/'] ++ K'' ++ ds' ++ ['>'] ++ post)).drop 1) = false)
    (hpostK : occursCI K post = false) :
    subPat (tplXml.inst (keyItems K)) rep2 mask
      (pre ++ (['<'] ++ K' ++ ds ++ ['>'] ++ secret ++ ['<', '/'] ++ K'' ++ ds' ++ ['>'] ++ post))
      = pre ++ (['<'] ++ K' ++ ds ++ ['>'] ++ mask ++ ['<', '/'] ++ K'' ++ ds' ++ ['>'] ++ post) :=
  subPat_rendering (A := '<' :: (K' ++ (ds ++ ['>']))) (B := secret) (C := '<' :: '/' :: (K'' ++ (ds' ++ ['>'])))
    (post := post)
    (by simp only [List.append_assoc, List.cons_append, List.nil_append])
    (by simp only [rep2, expand, List.append_assoc, List.cons_append, List.nil_append, List.append_nil])
    (by simp)
    (fun j hj => matchPat_none_of_keyAfter rfl rfl rfl (hpre j hj))
    (by
      simp only [List.append_assoc, List.cons_append, List.nil_append]
      exact matchPat_of_greedy
        (.one (by decide) <| .key hK <| .star hds (.cons (by decide)) <| .one (by decide) (.nil _))
        (.star hsecV (.cons (by decide)) (.nil _))
        (.one (by decide) <| .one (by decide) <| .key hK2 <| .star hds' (.cons (by decide)) <|
          .one (by decide) (.nil _)))
    (subPat_noKey tplXml rep2 K mask post (by decide) hpostK)

/-- `<key>***</key>` stays as it is under the xml substitution, for every mask over `[^<]*` -/
theorem mask_idempotent_on_masked_xml_partial (K K' K'' ds ds' pre post mask : List Char)
    (hK : keyMatch K K' = true) (hK2 : keyMatch K K'' = true)
    (hds : ∀ c ∈ ds, digitC.test c = true) (hds' : ∀ c ∈ ds', digitC.test c = true)
    (hmaskV : ∀ c ∈ mask, nltC.test c = true)
    (hpre : ∀ j, j < pre.length → keyPrefix K ((pre.drop j ++
      (['<'] ++ K' ++ ds ++ ['>'] ++ mask ++ ['<', '/'] ++ K'' ++ ds' ++ ['>'] ++ post)).drop 1) = false)
    (hpostK : occursCI K post = false) :
    subPat (tplXml.inst (keyItems K)) rep2 mask
      (pre ++ (['<'] ++ K' ++ ds ++ ['>'] ++ mask ++ ['<', '/'] ++ K'' ++ ds' ++ ['>'] ++ post))
      = pre ++ (['<'] ++ K' ++ ds ++ ['>'] ++ mask ++ ['<', '/'] ++ K'' ++ ds' ++ ['>'] ++ post) :=
  mask_rendering_xml_partial K K' K'' ds ds' mask pre post mask hK hK2 hds hds' hmaskV hpre hpostK

/-- **Rendering `"key": "value"`, the pattern `_FORMAT_PATTERNS_2[6]`** (one substitution, full generality: any key,
spelling, digit suffix, either quote in each of the four places, whitespace around `:`, every secret over
`[^"']*`).  What `mask_password` as a whole does to this rendering when a further quote character follows
later in the message is the listed finding KF_C04_WILDCARD (`known_finding_wildcard_witness`). -/
theorem mask_rendering_colon_quoted_partial (K K' ds w1 w2 secret pre post mask : List Char) (q0 q1 q2 q3 : Char)
    (hK : keyMatch K K' = true) (hds : ∀ c ∈ ds, digitC.test c = true) (hw1 : ∀ c ∈ w1, wsC.test c = true)
    (hw2 : ∀ c ∈ w2, wsC.test c = true) (hq0 : quoteC.test q0 = true) (hq1 : quoteC.test q1 = true)
    (hq2 : quoteC.test q2 = true) (hq3 : quoteC.test q3 = true) (hsecV : ∀ c ∈ secret, nquoteC.test c = true)
    (hpre : ∀ j, j < pre.length → keyPrefix K ((pre.drop j ++
      ([q0] ++ K' ++ ds ++ [q1] ++ w1 ++ [':'] ++ w2 ++ [q2] ++ secret ++ [q3] ++ post)).drop 1) = false)
    (hpostK : occursCI K post = false) :
    subPat (tplColonQuoted.inst (keyItems K)) rep2 mask
      (pre ++ ([q0] ++ K' ++ ds ++ [q1] ++ w1 ++ [':'] ++ w2 ++ [q2] ++ secret ++ [q3] ++ post))
      = pre ++ ([q0] ++ K' ++ ds ++ [q1] ++ w1 ++ [':'] ++ w2 ++ [q2] ++ mask ++ [q3] ++ post) :=
  subPat_rendering2 (by simp)
    (fun j hj => matchPat_none_of_keyAfter rfl rfl rfl (hpre j hj))
    (by
      simp only [List.append_assoc, List.cons_append, List.nil_append]
      exact matchPat_of_greedy
        (.one hq0 <| .key hK <| .star hds (.cons_of hq1 lemma_excl_quote_digit) <| .one hq1 <| .star hw1 (.cons (by decide)) <|
          .one (by decide) <| .star hw2 (.cons_of hq2 lemma_excl_quote_ws) <| .one hq2 (.nil _))
        (.star hsecV (.cons_of hq3 lemma_excl_quote_nquote) (.nil _)) (.one hq3 (.nil _)))
    (subPat_noKey tplColonQuoted rep2 K mask post (by decide) hpostK)

/-- `"key": "***"` stays as it is under the colon_quoted substitution, for every mask over `[^"']*` -/
theorem mask_idempotent_on_masked_colon_quoted_partial (K K' ds w1 w2 pre post mask : List Char) (q0 q1 q2 q3 : Char)
    (hK : keyMatch K K' = true) (hds : ∀ c ∈ ds, digitC.test c = true) (hw1 : ∀ c ∈ w1, wsC.test c = true)
    (hw2 : ∀ c ∈ w2, wsC.test c = true) (hq0 : quoteC.test q0 = true) (hq1 : quoteC.test q1 = true)
    (hq2 : quoteC.test q2 = true) (hq3 : quoteC.test q3 = true) (hmaskV : ∀ c ∈ mask, nquoteC.test c = true)
    (hpre : ∀ j, j < pre.length → keyPrefix K ((pre.drop j ++
      ([q0] ++ K' ++ ds ++ [q1] ++ w1 ++ [':'] ++ w2 ++ [q2] ++ mask ++ [q3] ++ post)).drop 1) = false)
    (hpostK : occursCI K post = false) :
    subPat (tplColonQuoted.inst (keyItems K)) rep2 mask
      (pre ++ ([q0] ++ K' ++ ds ++ [q1] ++ w1 ++ [':'] ++ w2 ++ [q2] ++ mask ++ [q3] ++ post))
      = pre ++ ([q0] ++ K' ++ ds ++ [q1] ++ w1 ++ [':'] ++ w2 ++ [q2] ++ mask ++ [q3] ++ post) :=
  mask_rendering_colon_quoted_partial K K' ds w1 w2 mask pre post mask q0 q1 q2 q3 hK hds hw1 hw2 hq0 hq1 hq2 hq3 hmaskV
    hpre hpostK

/-- **Rendering `key --flag value` / `key -f value`, the pattern `_FORMAT_PATTERNS_2[9]`** (one substitution, full
generality: any key, spelling, digit suffix, optional whitespace before the flag, one or two dashes, every flag
over `[A-z]+` as compiled with IGNORECASE, non-empty whitespace before the value, every non-empty secret over
`\S+`, trailing whitespace kept) -/
theorem mask_rendering_cmd_flag_partial (K K' ds w1 dd flag w2 secret w3 pre post mask : List Char) (d1 : Char)
    (hK : keyMatch K K' = true) (hds : ∀ c ∈ ds, digitC.test c = true) (hw1 : ∀ c ∈ w1, wsC.test c = true)
    (hd1 : dashC.test d1 = true) (hdd : dd = [] ∨ ∃ d2, dd = [d2] ∧ dashC.test d2 = true)
    (hflag : ∀ c ∈ flag, flagC.test c = true) (hflagne : flag ≠ [])
    (hw2 : ∀ c ∈ w2, wsC.test c = true) (hw2ne : w2 ≠ [])
    (hsec : secret ≠ []) (hsecV : ∀ c ∈ secret, nwsC.test c = true) (hw3 : ∀ c ∈ w3, wsC.test c = true)
    (hstop : ∀ c, post.head? = some c → wsC.test c = false ∧ (w3 = [] → nwsC.test c = false))
    (hpre : ∀ j, j < pre.length → keyPrefix K (pre.drop j ++
      (K' ++ ds ++ w1 ++ [d1] ++ dd ++ flag ++ w2 ++ secret ++ w3 ++ post)) = false)
    (hpostK : occursCI K post = false) :
    subPat (tplCmdFlag.inst (keyItems K)) rep2 mask
      (pre ++ (K' ++ ds ++ w1 ++ [d1] ++ dd ++ flag ++ w2 ++ secret ++ w3 ++ post))
      = pre ++ (K' ++ ds ++ w1 ++ [d1] ++ dd ++ flag ++ w2 ++ mask ++ w3 ++ post) :=
  subPat_rendering2 (by simp)
    (fun j hj => matchPat_none_of_keyPrefix rfl (hpre j hj))
    (by
      simp only [List.append_assoc, List.cons_append, List.nil_append]
      exact matchPat_of_greedy
        (.key hK <| .star hds (.append hw1 lemma_excl_ws_digit fun _ => .cons_of hd1 lemma_excl_dash_digit) <|
          .star hw1 (.cons_of hd1 lemma_excl_dash_ws) <| .one hd1 <|
          .opt hdd (fun _ => .append hflag lemma_excl_flag_dash (absurd · hflagne)) <|
          .plus hflagne hflag (.append hw2 (by decide) (absurd · hw2ne)) <|
          .star hw2 (.append hsecV (by decide) (absurd · hsec)) (.nil _))
        (.plus hsec hsecV (.append hw3 (by decide) fun h c hc => (hstop c hc).2 h) (.nil _))
        (.star hw3 (fun c hc => (hstop c hc).1) (.nil _)))
    (subPat_noKey tplCmdFlag rep2 K mask post (by decide) hpostK)

/-- the head `["'][^"']*KEY` of the prefixed templates: the greedy `[^"']*` runs through prefix, key and digits up
    to the next quote and gives characters back down to the start of the key, which starts nowhere later in
    that stretch (`hmid`) -/
theorem lemma_matchSeq_quote_prefix_key {α} {tail : List Item} {k : List Char → Option α}
    {K K' px ds t : List Char} {q0 : Char} {v : α}
    (hq0 : quoteC.test q0 = true) (hK : keyMatch K K' = true) (hKnq : ∀ c ∈ K', nquoteC.test c = true)
    (hpx : ∀ c ∈ px, nquoteC.test c = true) (hds : ∀ c ∈ ds, digitC.test c = true) (ht : StopsAt nquoteC t)
    (hmid : ∀ j, px.length < j → j ≤ (px ++ (K' ++ ds)).length →
      keyPrefix K (((px ++ (K' ++ ds)) ++ t).drop j) = false)
    (htail : matchSeq tail k (ds ++ t) = some v) :
    matchSeq (⟨quoteC, 1, some 1⟩ :: ⟨nquoteC, 0, none⟩ :: (keyItems K ++ tail)) k
      (q0 :: (px ++ (K' ++ (ds ++ t)))) = some v := by
  have e : px ++ (K' ++ (ds ++ t)) = (px ++ (K' ++ ds)) ++ t := by simp only [List.append_assoc]
  rw [matchSeq_one, e]
  simp only [hq0, if_true]
  refine matchSeq_cons_backtrack _ _ _ (px ++ (K' ++ ds)) t v px.length rfl (Nat.zero_le _) (by simp) ?_ ht ?_ ?_
  · simp only [List.forall_mem_append]
    exact ⟨hpx, hKnq, fun c h => by rw [lemma_nquote, Cls.excludes_sound (c := digitC) lemma_excl_digit_quote (hds c h)]; rfl⟩
  · intro j h1 h2
    rw [matchSeq_keyItems, hmid j h1 h2]; rfl
  · rw [← e, List.drop_left, matchSeq_keyItems, keyPrefix_of_keyMatch K K' _ hK, if_pos rfl,
      ← keyMatch_length K K' hK, List.drop_left]
    exact htail

theorem lemma_nomatch_in_quotefree {p : Pattern} {rest : List Item} (hg : p.g1 = ⟨quoteC, 1, some 1⟩ :: rest)
    {pre R : List Char} (hpreq : ∀ c ∈ pre, quoteC.test c = false) (j : Nat) (hj : j < pre.length) :
    matchPat p (pre.drop j ++ R) = none := by
  rw [matchPat, hg, matchSeq_one]
  cases hd : pre.drop j with
  | nil =>
    have : (pre.drop j).length = 0 := by rw [hd]; rfl
    simp at this; omega
  | cons c cs =>
    have hc : c ∈ pre := List.mem_of_mem_drop (by rw [hd]; simp)
    simp [hpreq c hc]

/-- **Rendering `"prefix_key": u"value"`, the pattern `_FORMAT_PATTERNS_2[7]`** (one substitution, full generality:
any key, spelling, digit suffix, any quote-free text between the opening quote and the key, either quote in each
place, whitespace around `:`, optional `u`/`U`, every secret over `[^"']*`).  The greedy `[^"']*` in front of the
key has to give characters back: `hmid` says the key does not start again inside `key digits`. -/
theorem mask_rendering_colon_prefixed_partial (K K' px ds w1 w2 uu secret pre post mask : List Char) (q0 q1 q2 q3 : Char)
    (hK : keyMatch K K' = true) (hKnq : ∀ c ∈ K', nquoteC.test c = true)
    (hpx : ∀ c ∈ px, nquoteC.test c = true)
    (hds : ∀ c ∈ ds, digitC.test c = true) (hw1 : ∀ c ∈ w1, wsC.test c = true)
    (hw2 : ∀ c ∈ w2, wsC.test c = true) (hq0 : quoteC.test q0 = true) (hq1 : quoteC.test q1 = true)
    (hq2 : quoteC.test q2 = true) (hq3 : quoteC.test q3 = true)
    (huu : uu = [] ∨ ∃ u, uu = [u] ∧ uC.test u = true) (hsecV : ∀ c ∈ secret, nquoteC.test c = true)
    (hmid : ∀ j, px.length < j → j ≤ (px ++ (K' ++ ds)).length →
      keyPrefix K (((px ++ (K' ++ ds)) ++ (q1 :: (w1 ++ (':' :: (w2 ++ (uu ++ (q2 :: (secret ++ (q3 :: post))))))))).drop j)
        = false)
    (hpreq : ∀ c ∈ pre, quoteC.test c = false) (hpostK : occursCI K post = false) :
    subPat (tplColonPrefixed.inst (keyItems K)) rep2 mask
      (pre ++ ([q0] ++ px ++ K' ++ ds ++ [q1] ++ w1 ++ [':'] ++ w2 ++ uu ++ [q2] ++ secret ++ [q3] ++ post))
      = pre ++ ([q0] ++ px ++ K' ++ ds ++ [q1] ++ w1 ++ [':'] ++ w2 ++ uu ++ [q2] ++ mask ++ [q3] ++ post) :=
  subPat_rendering2 (by simp)
    (lemma_nomatch_in_quotefree rfl hpreq)
    (by
      simp only [List.append_assoc, List.cons_append, List.nil_append]
      exact lemma_matchSeq_quote_prefix_key hq0 hK hKnq hpx hds (.cons_of hq1 lemma_excl_quote_nquote) hmid <|
        matchSeq_of_greedy
          (.star hds (.cons_of hq1 lemma_excl_quote_digit) <| .one hq1 <| .star hw1 (.cons (by decide)) <| .one (by decide) <|
            .star hw2 (.append (test_of_opt huu) lemma_excl_u_ws fun _ => .cons_of hq2 lemma_excl_quote_ws) <|
            .opt huu (fun _ => .cons_of hq2 lemma_excl_quote_u) <| .one hq2 (.nil _)) <|
        matchSeq_of_greedy (.star hsecV (.cons_of hq3 lemma_excl_quote_nquote) (.nil _)) <|
        matchSeq_of_greedy (.one hq3 (.nil _)) rfl)
    (subPat_noKey tplColonPrefixed rep2 K mask post (by decide) hpostK)

/-- **Rendering `'prefix_key', '--flag', u'value'`, the pattern `_FORMAT_PATTERNS_2[8]`** (one substitution, full
generality: any key, spelling, digit suffix, quote-free prefix, either quote around key and value, whitespace
around the commas, one or two dashes, every flag over `[A-z]+` as compiled, optional `u`, every secret over
`[^"']*`) -/
theorem mask_rendering_cmd_list_partial (K K' px ds w1 w2 dd flag w3 w4 uu secret pre post mask : List Char)
    (q0 q1 q2 q3 d1 : Char)
    (hK : keyMatch K K' = true) (hKnq : ∀ c ∈ K', nquoteC.test c = true)
    (hpx : ∀ c ∈ px, nquoteC.test c = true)
    (hds : ∀ c ∈ ds, digitC.test c = true) (hw1 : ∀ c ∈ w1, wsC.test c = true)
    (hw2 : ∀ c ∈ w2, wsC.test c = true) (hw3 : ∀ c ∈ w3, wsC.test c = true) (hw4 : ∀ c ∈ w4, wsC.test c = true)
    (hq0 : quoteC.test q0 = true) (hq1 : quoteC.test q1 = true)
    (hq2 : quoteC.test q2 = true) (hq3 : quoteC.test q3 = true)
    (hd1 : dashC.test d1 = true) (hdd : dd = [] ∨ ∃ d2, dd = [d2] ∧ dashC.test d2 = true)
    (hflag : ∀ c ∈ flag, flagC.test c = true) (hflagne : flag ≠ [])
    (huu : uu = [] ∨ ∃ u, uu = [u] ∧ uC.test u = true) (hsecV : ∀ c ∈ secret, nquoteC.test c = true)
    (hmid : ∀ j, px.length < j → j ≤ (px ++ (K' ++ ds)).length →
      keyPrefix K (((px ++ (K' ++ ds)) ++ (q1 :: (w1 ++ (',' :: (w2 ++ ('\'' :: d1 :: (dd ++ (flag ++
        ('\'' :: (w3 ++ (',' :: (w4 ++ (uu ++ (q2 :: (secret ++ (q3 :: post)))))))))))))))).drop j) = false)
    (hpreq : ∀ c ∈ pre, quoteC.test c = false) (hpostK : occursCI K post = false) :
    subPat (tplCmdList.inst (keyItems K)) rep2 mask
      (pre ++ ([q0] ++ px ++ K' ++ ds ++ [q1] ++ w1 ++ [','] ++ w2 ++ ['\'', d1] ++ dd ++ flag ++ ['\''] ++ w3 ++
        [','] ++ w4 ++ uu ++ [q2] ++ secret ++ [q3] ++ post))
      = pre ++ ([q0] ++ px ++ K' ++ ds ++ [q1] ++ w1 ++ [','] ++ w2 ++ ['\'', d1] ++ dd ++ flag ++ ['\''] ++ w3 ++
        [','] ++ w4 ++ uu ++ [q2] ++ mask ++ [q3] ++ post) :=
  subPat_rendering2 (by simp)
    (lemma_nomatch_in_quotefree rfl hpreq)
    (by
      simp only [List.append_assoc, List.cons_append, List.nil_append]
      exact lemma_matchSeq_quote_prefix_key hq0 hK hKnq hpx hds (.cons_of hq1 lemma_excl_quote_nquote) hmid <|
        matchSeq_of_greedy
          (.star hds (.cons_of hq1 lemma_excl_quote_digit) <| .one hq1 <| .star hw1 (.cons (by decide)) <| .one (by decide) <|
            .star hw2 (.cons (by decide)) <| .one (by decide) <| .one hd1 <|
            .opt hdd (fun _ => .append hflag lemma_excl_flag_dash (absurd · hflagne)) <| .plus hflagne hflag (.cons (by decide)) <|
            .one (by decide) <| .star hw3 (.cons (by decide)) <| .one (by decide) <|
            .star hw4 (.append (test_of_opt huu) lemma_excl_u_ws fun _ => .cons_of hq2 lemma_excl_quote_ws) <|
            .opt huu (fun _ => .cons_of hq2 lemma_excl_quote_u) <| .one hq2 (.nil _)) <|
        matchSeq_of_greedy (.star hsecV (.cons_of hq3 lemma_excl_quote_nquote) (.nil _)) <|
        matchSeq_of_greedy (.one hq3 (.nil _)) rfl)
    (subPat_noKey tplCmdList rep2 K mask post (by decide) hpostK)

/-! ### from one substitution to `mask_password`: the patterns that do not match

The message holds the key at one place (`UniqueAt`), after `pre`.  A pattern of the key can then match only with
its key item there (`match_at_unique_key`); each of the lemmas below says why one kind of template cannot. -/

theorem lemma_sub_id_of_absent (t : Template) (qc : Cls) (rep : List RepTok) {ki : List Item} {mask M : List Char}
    (hq : one qc ∈ t.g1) (hM : ∀ c ∈ M, qc.test c = false) : subPat (t.inst ki) rep mask M = M :=
  subPat_of_noMatch rep mask fun a _ hab =>
    matchPat_none_of_absent _ _ ⟨qc, 1, some 1⟩ (List.mem_append_left _ (instItems_mem ki _ t.g1 hq))
      (Nat.le_refl 1) fun c hc => hM c (hab ▸ List.mem_append_right a hc)

/-- the key is not preceded by `-` -/
theorem lemma_nomatch_dashdash {K pre R a b : List Char} (hu : UniqueAt K (pre ++ R) pre.length)
    (hlast : ∀ c, pre.getLast? = some c → dashC.test c = false) (hab : pre ++ R = a ++ b) :
    matchPat (tplDashDash.inst (keyItems K)) b = none :=
  Option.eq_none_iff_forall_ne_some.2 fun bd hm => by
    obtain ⟨x, _, _, _, hpre, cp, _⟩ := match_at_unique_key (pfx := [⟨dashC, 2, some 2⟩]) rfl hu hab hm
    obtain ⟨seg, s1, hs, hseg, hlo, _, cn⟩ := cp.cons_inv
    cases cn.nil_inv
    cases List.append_cancel_right hs
    have hne : x ≠ [] := by intro h; subst h; simp at hlo
    have h1 := hlast (x.getLast hne) (by rw [hpre, List.getLast?_append, List.getLast?_eq_some_getLast hne]; rfl)
    rw [hseg _ (List.getLast_mem hne)] at h1; cases h1

/-- `<KEY>…</KEY>` needs the key twice -/
theorem lemma_nomatch_xml {K pre R a b : List Char} (hu : UniqueAt K (pre ++ R) pre.length)
    (hab : pre ++ R = a ++ b) : matchPat (tplXml.inst (keyItems K)) b = none :=
  Option.eq_none_iff_forall_ne_some.2 fun bd hm => by
    obtain ⟨x, s1, s2, s3, _, _, cs, c2, c3⟩ := match_at_unique_key (pfx := [⟨ltC, 1, some 1⟩]) rfl hu hab hm
    obtain ⟨y, t1, ht1, _, c3'⟩ := Consumes.one_inv (c := ltC) c3
    obtain ⟨z, t2, ht2, _, c3''⟩ := Consumes.one_inv (c := slashC) c3'
    obtain ⟨u, hu1⟩ := cs.suffix
    obtain ⟨v, hv⟩ := c2.suffix
    have e := hu (pre ++ (R.take K.length ++ (u ++ (v ++ [y, z])))) t2
      (by
        conv => lhs; rw [← List.take_append_drop K.length R, hu1, hv, ht1, ht2]
        simp only [List.append_assoc, List.cons_append, List.nil_append])
      c3''.keyItems_inv.1
    simp only [List.length_append, List.length_cons, List.length_nil] at e
    omega

/-- the template wants a quote before the key; the text before the key has none -/
theorem lemma_nomatch_quote_before_key {p : Pattern} {pfx sfx : List Item} {K pre R a b : List Char}
    (hg : p.g1 = pfx ++ (keyItems K ++ sfx)) (hq : ⟨quoteC, 1, some 1⟩ ∈ pfx)
    (hu : UniqueAt K (pre ++ R) pre.length) (hpreq : ∀ c ∈ pre, quoteC.test c = false)
    (hab : pre ++ R = a ++ b) : matchPat p b = none :=
  Option.eq_none_iff_forall_ne_some.2 fun bd hm => by
    obtain ⟨x, _, _, _, hpre, cp, _⟩ := match_at_unique_key hg hu hab hm
    obtain ⟨x', c, hx, hc, ht⟩ := cp.exists_mem _ hq (Nat.le_refl 1)
    cases List.append_cancel_right hx
    rw [hpreq c (by rw [hpre]; simp [hc])] at ht; cases ht

/-- the template starts with the key; its remaining items cannot read the text `T` that follows the key -/
theorem lemma_nomatch_after_key {p : Pattern} {sfx : List Item} {K K' pre T a b : List Char}
    (hg : p.g1 = keyItems K ++ sfx) (hK : keyMatch K K' = true)
    (hu : UniqueAt K (pre ++ (K' ++ T)) pre.length) (hab : pre ++ (K' ++ T) = a ++ b)
    (hcannot : ∀ s2, ¬ Consumes (sfx ++ p.mid) T s2) : matchPat p b = none :=
  Option.eq_none_iff_forall_ne_some.2 fun bd hm => by
    obtain ⟨_, s1, s2, _, _, _, cs, c2, _⟩ := match_at_unique_key (pfx := []) hg hu hab hm
    rw [← keyMatch_length K K' hK, List.drop_left] at cs
    exact hcannot s2 (cs.append c2)

/-- `[0-9]*`, whitespace, and then a character of a class without digits, whitespace and `=` cannot read
    `digits ws =`: the two runs are forced, and `=` is not in the class -/
theorem lemma_noread_eq {c : Cls} {wlo : Nat} {rest : List Item} {ds w1 X s1 : List Char}
    (hds : ∀ c ∈ ds, digitC.test c = true) (hw1 : ∀ c ∈ w1, wsC.test c = true)
    (hcd : c.excludes digitC = true) (hcw : c.excludes wsC = true) (hce : c.test '=' = false) :
    ¬ Consumes (⟨digitC, 0, none⟩ :: ⟨wsC, wlo, none⟩ :: ⟨c, 1, some 1⟩ :: rest) (ds ++ (w1 ++ ('=' :: X))) s1 := by
  intro h
  have hwd : wsC.excludes digitC = true := by decide
  have h1 := h.run_inv hds (.append hw1 hwd fun _ => .cons (by decide)) (by simp [cantStart, hcd, hwd])
  have h2 := h1.run_inv hw1 (.cons (show wsC.test '=' = false by decide)) (by simp [cantStart, hcw])
  rw [h2.one_head.1] at hce; cases hce

/-- the bare pattern `key=value` cannot read `digits ws = ws "…`: after the forced runs its value class meets
    the quote -/
theorem lemma_noread_bare_on_quoted {ds w1 w2 Y s2 : List Char} {q : Char}
    (hds : ∀ c ∈ ds, digitC.test c = true) (hw1 : ∀ c ∈ w1, wsC.test c = true)
    (hw2 : ∀ c ∈ w2, wsC.test c = true) (hq : quoteC.test q = true) :
    ¬ Consumes [⟨digitC, 0, none⟩, ⟨wsC, 0, none⟩, ⟨eqC, 1, some 1⟩, ⟨wsC, 0, none⟩, ⟨bareC, 1, none⟩]
        (ds ++ (w1 ++ ('=' :: (w2 ++ (q :: Y))))) s2 := by
  intro h
  have h1 := h.run_inv hds (.append hw1 lemma_excl_ws_digit fun _ => .cons (by decide)) (by decide)
  have h2 := h1.run_inv hw1 (.cons (by decide)) (by decide)
  have h3 := h2.one_head.2.run_inv hw2 (.cons_of hq lemma_excl_quote_ws) (by decide)
  have h4 := h3.head_test (Nat.le_refl 1)
  rw [Cls.excludes_sound (c := quoteC) (by decide) hq] at h4; cases h4

theorem lemma_eq_message_noquote {qc : Cls} (hx : qc.excludes nquoteC = true) {K' ds w1 w2 pre Y : List Char}
    (hpreq : ∀ c ∈ pre, quoteC.test c = false) (hKq : ∀ c ∈ K', quoteC.test c = false)
    (hds : ∀ c ∈ ds, digitC.test c = true) (hw1 : ∀ c ∈ w1, wsC.test c = true)
    (hw2 : ∀ c ∈ w2, wsC.test c = true) (hY : ∀ c ∈ Y, qc.test c = false) :
    ∀ c ∈ pre ++ (K' ++ (ds ++ (w1 ++ ('=' :: (w2 ++ Y))))), qc.test c = false := by
  have hv : ∀ c, quoteC.test c = false → qc.test c = false := fun c h => lemma_noquote hx h
  simp only [List.forall_mem_append, List.forall_mem_cons]
  exact ⟨fun c h => hv c (hpreq c h), fun c h => hv c (hKq c h),
    fun c h => hv c (Cls.excludes_sound lemma_excl_digit_quote (hds c h)),
    fun c h => hv c (Cls.excludes_sound lemma_excl_ws_quote (hw1 c h)), hv _ (by decide),
    fun c h => hv c (Cls.excludes_sound lemma_excl_ws_quote (hw2 c h)), hY⟩

theorem lemma_keys_no_quote : ∀ K ∈ Gen.sanitizeKeys, ∀ k ∈ K, (keyCls k).excludes quoteC = true := by
  decide +kernel

/-- **`mask_password` on a bare `key = value` rendering.**  For every key `K` of the generated list, every
spelling `K'` of it whose lower-casing is `K` (any mix of letter cases, U+212A for `k`) with any digit suffix,
any whitespace around `=`, every non-empty secret over the value class of the generated template
(`[^\s'"]`: regex metacharacters, `=`, `^`, `-`, `<`, non-ASCII … included), every mask without quote
characters, and neutral surroundings: `mask_password` returns the message with exactly the value replaced
by the mask.  All twelve patterns of `K` and the loop over all 35 keys are accounted for.

`_partial` — what is missing with respect to the property:
* *single key*: no other sanitize key occurs in the lower-cased message, before or after masking (so keys
  that contain another key — `admin_password`, `auth_password`, `chappassword` ⊃ `password`, `auth_token` ⊃
  `token`, `secret_uuid`, `chapsecret` ⊃ `secret`, `admin_password` ⊃ `admin_pass` — and messages with several
  secrets are not covered by this theorem);
* the key (as the patterns read it) occurs only at the rendering: in particular not inside the secret
  (`hu`; this is the exclusion of the listed class KF_C04_NESTED);
* neutral surroundings are stronger than the patterns need: no quote character in prefix, suffix or mask, the
  prefix does not end with `-`, the suffix does not continue the value. -/
theorem mask_rendering_eq_bare_partial (K K' ds w1 w2 secret pre post mask : List Char)
    (hKmem : K ∈ Gen.sanitizeKeys) (hK : keyMatch K K' = true) (hlow : pyLower K' = K)
    (hds : ∀ c ∈ ds, digitC.test c = true) (hw1 : ∀ c ∈ w1, wsC.test c = true)
    (hw2 : ∀ c ∈ w2, wsC.test c = true) (hsec : secret ≠ []) (hsecV : ∀ c ∈ secret, bareC.test c = true)
    (hpost : ∀ c, post.head? = some c → bareC.test c = false)
    (hpreq : ∀ c ∈ pre, quoteC.test c = false) (hpostq : ∀ c ∈ post, quoteC.test c = false)
    (hmaskq : ∀ c ∈ mask, quoteC.test c = false)
    (hlast : ∀ c, pre.getLast? = some c → dashC.test c = false)
    (hu : ∀ j, j ≤ (pre ++ (K' ++ ds ++ w1 ++ ['='] ++ w2 ++ secret ++ post)).length →
      keyPrefix K ((pre ++ (K' ++ ds ++ w1 ++ ['='] ++ w2 ++ secret ++ post)).drop j) = true → j = pre.length)
    (hother : ∀ k ∈ Gen.sanitizeKeys, k ≠ K →
      isInfix k (pyLower (pre ++ (K' ++ ds ++ w1 ++ ['='] ++ w2 ++ secret ++ post))) = false ∧
      isInfix k (pyLower (pre ++ (K' ++ ds ++ w1 ++ ['='] ++ w2 ++ mask ++ post))) = false) :
    maskPassword (pre ++ (K' ++ ds ++ w1 ++ ['='] ++ w2 ++ secret ++ post)) mask
      = pre ++ (K' ++ ds ++ w1 ++ ['='] ++ w2 ++ mask ++ post) := by
  simp only [List.append_assoc, List.cons_append, List.nil_append] at hu hother ⊢
  refine maskPassword_single_key hKmem (isInfix_spelling K K' pre _ hlow) ?_ hother
  -- the `if key in message.lower():` body: only the `_FORMAT_PATTERNS_1` pattern fires
  have hU := UniqueAt.of_drop hu
  have hKq := keyMatch_excludes (lemma_keys_no_quote K hKmem) hK
  -- the templates with a mandatory quote: there is none in the message, whatever stands in the place of the value
  have miss : ∀ X, (∀ c ∈ X, quoteC.test c = false) → ∀ (t : Template) (qc : Cls) (rep : List RepTok),
      one qc ∈ t.g1 → qc.excludes nquoteC = true →
      subPat (t.inst (keyItems K)) rep mask (pre ++ (K' ++ (ds ++ (w1 ++ ('=' :: (w2 ++ (X ++ post)))))))
        = pre ++ (K' ++ (ds ++ (w1 ++ ('=' :: (w2 ++ (X ++ post)))))) :=
    fun X hX t qc rep hq hx => lemma_sub_id_of_absent t qc rep hq <|
      lemma_eq_message_noquote hx hpreq hKq hds hw1 hw2 <| List.forall_mem_append.2
        ⟨fun c h => lemma_noquote hx (hX c h), fun c h => lemma_noquote hx (hpostq c h)⟩
  have hM := miss secret fun c h => Cls.excludes_sound lemma_excl_bare_quote (hsecV c h)
  have e : ∀ X, K' ++ ds ++ w1 ++ ['='] ++ w2 ++ X ++ post = K' ++ (ds ++ (w1 ++ ('=' :: (w2 ++ (X ++ post))))) :=
    fun X => by simp only [List.append_assoc, List.cons_append, List.nil_append]
  have hbare := sub_rendering_eq_bare K K' ds w1 w2 secret pre post mask hK hds hw1 hw2 hsec hsecV hpost
    (by simpa only [e] using hU.not_before)
    (UniqueAt.not_after (mid := K' ++ (ds ++ (w1 ++ ('=' :: (w2 ++ secret)))))
      (by simpa only [List.append_assoc, List.cons_append] using hU) (by simp))
  simp only [e] at hbare
  unfold applyKey
  rw [templates_as_reviewed.1, templates_as_reviewed.2.1, templates_as_reviewed.2.2.1]
  simp only [subAll, List.foldl]
  rw [hM tplEqQuoted quoteC rep2 (by decide) lemma_excl_quote_nquote,
      hM tplEqDq dqC rep2 (by decide) lemma_excl_dq_nquote,
      hM tplEqSq sqC rep2 (by decide) lemma_excl_sq_nquote,
      hM tplKeyQuoted quoteC rep2 (by decide) lemma_excl_quote_nquote,
      subPat_of_noMatch rep2 mask fun _ _ hab => lemma_nomatch_dashdash hU hlast hab,
      subPat_of_noMatch rep2 mask fun _ _ hab => lemma_nomatch_xml hU hab,
      hM tplColonQuoted quoteC rep2 (by decide) lemma_excl_quote_nquote,
      hM tplColonPrefixed quoteC rep2 (by decide) lemma_excl_quote_nquote,
      hM tplCmdList quoteC rep2 (by decide) lemma_excl_quote_nquote,
      subPat_of_noMatch rep2 mask fun _ _ hab =>
        lemma_nomatch_after_key (p := tplCmdFlag.inst (keyItems K)) rfl hK hU hab fun _ =>
          lemma_noread_eq hds hw1 lemma_excl_dash_digit lemma_excl_dash_ws (by decide),
      hbare,
      miss mask hmaskq tplWildcard quoteC repW (by decide) lemma_excl_quote_nquote]

/-- non-vacuity of `mask_rendering_eq_bare_partial`: every hypothesis holds of a concrete message (mixed-case key
    with digit suffix, secret of regex metacharacters with `=`, `^`, `<`, `-` and a non-ASCII case-fold character) -/
example :
    let K := "password".toList; let K' := "PassWord".toList; let ds := "12".toList
    let w1 := " ".toList; let w2 : List Char := []; let secret := "a^b$c.*ſ=<-x".toList
    let pre := "user=x pass ".toList; let post := " and more".toList; let mask := "***".toList
    K ∈ Gen.sanitizeKeys ∧ keyMatch K K' = true ∧ pyLower K' = K ∧
    (∀ c ∈ ds, digitC.test c = true) ∧ (∀ c ∈ w1, wsC.test c = true) ∧
    (∀ c ∈ w2, wsC.test c = true) ∧ secret ≠ [] ∧ (∀ c ∈ secret, bareC.test c = true) ∧
    (∀ c, post.head? = some c → bareC.test c = false) ∧
    (∀ c ∈ pre, quoteC.test c = false) ∧ (∀ c ∈ post, quoteC.test c = false) ∧ (∀ c ∈ mask, quoteC.test c = false) ∧
    (∀ c, pre.getLast? = some c → dashC.test c = false) ∧
    (∀ j, j ≤ (pre ++ (K' ++ ds ++ w1 ++ ['='] ++ w2 ++ secret ++ post)).length →
      keyPrefix K ((pre ++ (K' ++ ds ++ w1 ++ ['='] ++ w2 ++ secret ++ post)).drop j) = true → j = pre.length) ∧
    (∀ k ∈ Gen.sanitizeKeys, k ≠ K →
      isInfix k (pyLower (pre ++ (K' ++ ds ++ w1 ++ ['='] ++ w2 ++ secret ++ post))) = false ∧
      isInfix k (pyLower (pre ++ (K' ++ ds ++ w1 ++ ['='] ++ w2 ++ mask ++ post))) = false) := by
  repeat rw [String.toList_ofList]
  decide +kernel

/-- masking an already masked bare `key=value` message changes nothing (`mask_password` as a whole; same
    restrictions as `mask_rendering_eq_bare_partial`, mask non-empty and over the value class) -/
theorem mask_idempotent_on_masked_eq_bare_partial (K K' ds w1 w2 pre post mask : List Char)
    (hKmem : K ∈ Gen.sanitizeKeys) (hK : keyMatch K K' = true) (hlow : pyLower K' = K)
    (hds : ∀ c ∈ ds, digitC.test c = true) (hw1 : ∀ c ∈ w1, wsC.test c = true)
    (hw2 : ∀ c ∈ w2, wsC.test c = true) (hmask : mask ≠ []) (hmaskV : ∀ c ∈ mask, bareC.test c = true)
    (hpost : ∀ c, post.head? = some c → bareC.test c = false)
    (hpreq : ∀ c ∈ pre, quoteC.test c = false) (hpostq : ∀ c ∈ post, quoteC.test c = false)
    (hlast : ∀ c, pre.getLast? = some c → dashC.test c = false)
    (hu : ∀ j, j ≤ (pre ++ (K' ++ ds ++ w1 ++ ['='] ++ w2 ++ mask ++ post)).length →
      keyPrefix K ((pre ++ (K' ++ ds ++ w1 ++ ['='] ++ w2 ++ mask ++ post)).drop j) = true → j = pre.length)
    (hother : ∀ k ∈ Gen.sanitizeKeys, k ≠ K →
      isInfix k (pyLower (pre ++ (K' ++ ds ++ w1 ++ ['='] ++ w2 ++ mask ++ post))) = false) :
    maskPassword (pre ++ (K' ++ ds ++ w1 ++ ['='] ++ w2 ++ mask ++ post)) mask
      = pre ++ (K' ++ ds ++ w1 ++ ['='] ++ w2 ++ mask ++ post) :=
  mask_rendering_eq_bare_partial K K' ds w1 w2 mask pre post mask hKmem hK hlow hds hw1 hw2 hmask hmaskV hpost
    hpreq hpostq (fun c hc => Cls.excludes_sound lemma_excl_bare_quote (hmaskV c hc)) hlast hu
    (fun k hk hne => ⟨hother k hk hne, hother k hk hne⟩)

/-- **`mask_password` on `key = "value"` / `key = 'value'`.**  For every key `K` of the generated list, every
spelling `K'` whose lower-casing is `K`, any digit suffix and whitespace around `=`, either quote kind (the same
on both sides), every secret over the value class of the generated template (`[^"']*`: the empty secret, spaces,
Unicode whitespace, `=`, `<`, `-`, regex metacharacters, non-ASCII … included), every mask without quote
characters, neutral surroundings: `mask_password` returns the message with exactly the value replaced by the
mask.  All twelve patterns of `K` are accounted for (the first replaces the value, the pattern of the same quote
kind re-masks the mask to itself, the other ten do not match) and so is the loop over all 35 keys.

`_partial` — what is missing with respect to the property:
* *single key*: no other sanitize key occurs in the lower-cased message, before or after masking (keys that
  contain another key and messages with several secrets are not covered by this theorem);
* the key (as the patterns read it) occurs only at the rendering, before and after masking (`hu`, `hu'`: the
  exclusion of the listed class KF_C04_NESTED);
* opening and closing quote are the same character; neutral surroundings are stronger than the patterns need
  (no quote character in prefix, suffix or mask; the prefix does not end with `-`). -/
theorem mask_rendering_eq_quoted_partial (K K' ds w1 w2 secret pre post mask : List Char) (q : Char)
    (hKmem : K ∈ Gen.sanitizeKeys) (hK : keyMatch K K' = true) (hlow : pyLower K' = K)
    (hds : ∀ c ∈ ds, digitC.test c = true) (hw1 : ∀ c ∈ w1, wsC.test c = true)
    (hw2 : ∀ c ∈ w2, wsC.test c = true) (hq : q = '"' ∨ q = '\'')
    (hsecV : ∀ c ∈ secret, nquoteC.test c = true)
    (hpreq : ∀ c ∈ pre, quoteC.test c = false) (hpostq : ∀ c ∈ post, quoteC.test c = false)
    (hmaskq : ∀ c ∈ mask, quoteC.test c = false)
    (hlast : ∀ c, pre.getLast? = some c → dashC.test c = false)
    (hu : ∀ j, j ≤ (pre ++ (K' ++ ds ++ w1 ++ ['='] ++ w2 ++ [q] ++ secret ++ [q] ++ post)).length →
      keyPrefix K ((pre ++ (K' ++ ds ++ w1 ++ ['='] ++ w2 ++ [q] ++ secret ++ [q] ++ post)).drop j) = true →
      j = pre.length)
    (hu' : ∀ j, j ≤ (pre ++ (K' ++ ds ++ w1 ++ ['='] ++ w2 ++ [q] ++ mask ++ [q] ++ post)).length →
      keyPrefix K ((pre ++ (K' ++ ds ++ w1 ++ ['='] ++ w2 ++ [q] ++ mask ++ [q] ++ post)).drop j) = true →
      j = pre.length)
    (hother : ∀ k ∈ Gen.sanitizeKeys, k ≠ K →
      isInfix k (pyLower (pre ++ (K' ++ ds ++ w1 ++ ['='] ++ w2 ++ [q] ++ secret ++ [q] ++ post))) = false ∧
      isInfix k (pyLower (pre ++ (K' ++ ds ++ w1 ++ ['='] ++ w2 ++ [q] ++ mask ++ [q] ++ post))) = false) :
    maskPassword (pre ++ (K' ++ ds ++ w1 ++ ['='] ++ w2 ++ [q] ++ secret ++ [q] ++ post)) mask
      = pre ++ (K' ++ ds ++ w1 ++ ['='] ++ w2 ++ [q] ++ mask ++ [q] ++ post) := by
  simp only [List.append_assoc, List.cons_append, List.nil_append] at hu hu' hother ⊢
  refine maskPassword_single_key hKmem (isInfix_spelling K K' pre _ hlow) ?_ hother
  -- the `if key in message.lower():` body: the first pattern replaces the value, the pattern of the same quote
  -- kind re-masks the mask to itself, the other ten do not match the masked message
  have hU := UniqueAt.of_drop hu
  have hU' := UniqueAt.of_drop hu'
  have hKq := keyMatch_excludes (lemma_keys_no_quote K hKmem) hK
  have hqq : quoteC.test q = true := by rcases hq with rfl | rfl <;> decide
  have hmaskV : ∀ c ∈ mask, nquoteC.test c = true := fun c hc => by rw [lemma_nquote, hmaskq c hc]; rfl
  have e : ∀ X, K' ++ ds ++ w1 ++ ['='] ++ w2 ++ [q] ++ X ++ [q] ++ post
      = K' ++ (ds ++ (w1 ++ ('=' :: (w2 ++ (q :: (X ++ (q :: post))))))) :=
    fun X => by simp only [List.append_assoc, List.cons_append, List.nil_append]
  have hpostK : occursCI K post = false :=
    UniqueAt.not_after (mid := K' ++ (ds ++ (w1 ++ ('=' :: (w2 ++ (q :: (secret ++ [q])))))))
      (by simpa only [List.append_assoc, List.cons_append, List.nil_append] using hU) (by simp)
  have h0 := sub_rendering_eq_quoted K K' ds w1 w2 secret pre post mask q q hK hds hw1 hw2 hqq hqq hsecV
    (by simpa only [e] using hU.not_before) hpostK
  simp only [e] at h0
  have h12 : subPat (tplEqSq.inst (keyItems K)) rep2 mask (subPat (tplEqDq.inst (keyItems K)) rep2 mask
      (pre ++ (K' ++ (ds ++ (w1 ++ ('=' :: (w2 ++ (q :: (mask ++ (q :: post))))))))))
      = pre ++ (K' ++ (ds ++ (w1 ++ ('=' :: (w2 ++ (q :: (mask ++ (q :: post)))))))) := by
    -- apart from the two `q` the masked message has no quote
    have hparts : ∀ (qc : Cls), qc.test q = false → qc.excludes nquoteC = true →
        ∀ c ∈ pre ++ (K' ++ (ds ++ (w1 ++ ('=' :: (w2 ++ (q :: (mask ++ (q :: post)))))))), qc.test c = false :=
      fun qc hqn hx => lemma_eq_message_noquote hx hpreq hKq hds hw1 hw2 <| by
        simp only [List.forall_mem_append, List.forall_mem_cons]
        exact ⟨hqn, fun c h => lemma_noquote hx (hmaskq c h), hqn, fun c h => lemma_noquote hx (hpostq c h)⟩
    have hpre' : ∀ j, j < pre.length → keyPrefix K (pre.drop j ++
        (K' ++ ds ++ w1 ++ ['='] ++ w2 ++ [q] ++ mask ++ [q] ++ post)) = false := by
      simpa only [e] using hU'.not_before
    rcases hq with rfl | rfl
    · have hd := mask_rendering_eq_dquoted_partial K K' ds w1 w2 mask pre post mask hK hds hw1 hw2
        (fun c hc => by rw [ndqC, test_ncls, lemma_noquote (qc := cls [(34, 34)]) (by decide) (hmaskq c hc)]; rfl) hpre' hpostK
      simp only [e] at hd
      rw [hd]
      exact lemma_sub_id_of_absent tplEqSq sqC rep2 (by decide) (hparts sqC (by decide) lemma_excl_sq_nquote)
    · have hs := mask_rendering_eq_squoted_partial K K' ds w1 w2 mask pre post mask hK hds hw1 hw2
        (fun c hc => by rw [nsqC, test_ncls, lemma_noquote (qc := cls [(39, 39)]) (by decide) (hmaskq c hc)]; rfl) hpre' hpostK
      simp only [e] at hs
      rw [lemma_sub_id_of_absent tplEqDq dqC rep2 (by decide) (hparts dqC (by decide) lemma_excl_dq_nquote)]
      exact hs
  unfold applyKey
  rw [templates_as_reviewed.1, templates_as_reviewed.2.1, templates_as_reviewed.2.2.1]
  simp only [subAll, List.foldl]
  rw [h0, h12,
      subPat_of_noMatch rep2 mask fun _ _ hab =>
        lemma_nomatch_after_key (p := tplKeyQuoted.inst (keyItems K)) rfl hK hU' hab fun _ =>
          lemma_noread_eq hds hw1 lemma_excl_quote_digit lemma_excl_quote_ws (by decide),
      subPat_of_noMatch rep2 mask fun _ _ hab => lemma_nomatch_dashdash hU' hlast hab,
      subPat_of_noMatch rep2 mask fun _ _ hab => lemma_nomatch_xml hU' hab,
      subPat_of_noMatch rep2 mask fun _ _ hab =>
        lemma_nomatch_quote_before_key (p := tplColonQuoted.inst (keyItems K)) (pfx := [⟨quoteC, 1, some 1⟩])
          rfl (by simp) hU' hpreq hab,
      subPat_of_noMatch rep2 mask fun _ _ hab =>
        lemma_nomatch_quote_before_key (p := tplColonPrefixed.inst (keyItems K))
          (pfx := [⟨quoteC, 1, some 1⟩, ⟨nquoteC, 0, none⟩]) rfl (by simp) hU' hpreq hab,
      subPat_of_noMatch rep2 mask fun _ _ hab =>
        lemma_nomatch_quote_before_key (p := tplCmdList.inst (keyItems K))
          (pfx := [⟨quoteC, 1, some 1⟩, ⟨nquoteC, 0, none⟩]) rfl (by simp) hU' hpreq hab,
      subPat_of_noMatch rep2 mask fun _ _ hab =>
        lemma_nomatch_after_key (p := tplCmdFlag.inst (keyItems K)) rfl hK hU' hab fun _ =>
          lemma_noread_eq hds hw1 lemma_excl_dash_digit lemma_excl_dash_ws (by decide),
      subPat_of_noMatch rep1 mask fun _ _ hab =>
        lemma_nomatch_after_key (p := tplEqBare.inst (keyItems K)) rfl hK hU' hab fun _ =>
          lemma_noread_bare_on_quoted hds hw1 hw2 hqq,
      subPat_of_noMatch repW mask fun _ _ hab =>
        lemma_nomatch_quote_before_key (p := tplWildcard.inst (keyItems K))
          (pfx := [⟨quoteC, 1, some 1⟩, ⟨nquoteC, 0, none⟩]) rfl (by simp) hU' hpreq hab]

/-- non-vacuity of `mask_rendering_eq_quoted_partial` (secret with spaces, Unicode whitespace, `=`, `<`, `-`, regex
    metacharacters and a non-ASCII case-fold character; upper-case key) -/
example :
    let K := "token".toList; let K' := "TOKEN".toList; let ds := "7".toList
    let w1 : List Char := []; let w2 := " ".toList; let secret := "a b\u2003=<c>-.*ſ".toList
    let pre := "GET /v3 user=x ".toList; let post := " done".toList; let mask := "***".toList; let q := '\''
    K ∈ Gen.sanitizeKeys ∧ keyMatch K K' = true ∧ pyLower K' = K ∧
    (∀ c ∈ ds, digitC.test c = true) ∧ (∀ c ∈ w1, wsC.test c = true) ∧ (∀ c ∈ w2, wsC.test c = true) ∧
    (q = '"' ∨ q = '\'') ∧ (∀ c ∈ secret, nquoteC.test c = true) ∧
    (∀ c ∈ pre, quoteC.test c = false) ∧ (∀ c ∈ post, quoteC.test c = false) ∧ (∀ c ∈ mask, quoteC.test c = false) ∧
    (∀ c, pre.getLast? = some c → dashC.test c = false) ∧
    (∀ j, j ≤ (pre ++ (K' ++ ds ++ w1 ++ ['='] ++ w2 ++ [q] ++ secret ++ [q] ++ post)).length →
      keyPrefix K ((pre ++ (K' ++ ds ++ w1 ++ ['='] ++ w2 ++ [q] ++ secret ++ [q] ++ post)).drop j) = true →
      j = pre.length) ∧
    (∀ j, j ≤ (pre ++ (K' ++ ds ++ w1 ++ ['='] ++ w2 ++ [q] ++ mask ++ [q] ++ post)).length →
      keyPrefix K ((pre ++ (K' ++ ds ++ w1 ++ ['='] ++ w2 ++ [q] ++ mask ++ [q] ++ post)).drop j) = true →
      j = pre.length) ∧
    (∀ k ∈ Gen.sanitizeKeys, k ≠ K →
      isInfix k (pyLower (pre ++ (K' ++ ds ++ w1 ++ ['='] ++ w2 ++ [q] ++ secret ++ [q] ++ post))) = false ∧
      isInfix k (pyLower (pre ++ (K' ++ ds ++ w1 ++ ['='] ++ w2 ++ [q] ++ mask ++ [q] ++ post))) = false) := by
  repeat rw [String.toList_ofList]
  decide +kernel

/-- masking an already masked `key = "***"` message changes nothing (`mask_password` as a whole; same
    restrictions as `mask_rendering_eq_quoted_partial`) -/
theorem mask_idempotent_on_masked_eq_quoted_partial (K K' ds w1 w2 pre post mask : List Char) (q : Char)
    (hKmem : K ∈ Gen.sanitizeKeys) (hK : keyMatch K K' = true) (hlow : pyLower K' = K)
    (hds : ∀ c ∈ ds, digitC.test c = true) (hw1 : ∀ c ∈ w1, wsC.test c = true)
    (hw2 : ∀ c ∈ w2, wsC.test c = true) (hq : q = '"' ∨ q = '\'')
    (hpreq : ∀ c ∈ pre, quoteC.test c = false) (hpostq : ∀ c ∈ post, quoteC.test c = false)
    (hmaskq : ∀ c ∈ mask, quoteC.test c = false)
    (hlast : ∀ c, pre.getLast? = some c → dashC.test c = false)
    (hu : ∀ j, j ≤ (pre ++ (K' ++ ds ++ w1 ++ ['='] ++ w2 ++ [q] ++ mask ++ [q] ++ post)).length →
      keyPrefix K ((pre ++ (K' ++ ds ++ w1 ++ ['='] ++ w2 ++ [q] ++ mask ++ [q] ++ post)).drop j) = true →
      j = pre.length)
    (hother : ∀ k ∈ Gen.sanitizeKeys, k ≠ K →
      isInfix k (pyLower (pre ++ (K' ++ ds ++ w1 ++ ['='] ++ w2 ++ [q] ++ mask ++ [q] ++ post))) = false) :
    maskPassword (pre ++ (K' ++ ds ++ w1 ++ ['='] ++ w2 ++ [q] ++ mask ++ [q] ++ post)) mask
      = pre ++ (K' ++ ds ++ w1 ++ ['='] ++ w2 ++ [q] ++ mask ++ [q] ++ post) :=
  mask_rendering_eq_quoted_partial K K' ds w1 w2 mask pre post mask q hKmem hK hlow hds hw1 hw2 hq
    (fun c hc => by rw [lemma_nquote, hmaskq c hc]; rfl)
    hpreq hpostq hmaskq hlast hu hu (fun k hk hne => ⟨hother k hk hne, hother k hk hne⟩)

/-- KF_C04_WILDCARD, reproduced by the model: the greedy `.*` of the WILDCARD pattern deletes `bob"` -/
theorem known_finding_wildcard_witness :
    maskPassword "{\"password\": \"abc\", \"user\": \"bob\"}".toList "***".toList
      = "{\"password\": \"***\", \"user\": \"}".toList := by
  repeat rw [String.toList_ofList]
  decide +kernel

/-- KF_C04_FLAGVALUE, reproduced by the model: `-b` is taken for a flag by the earlier key `password` -/
theorem known_finding_flagvalue_witness :
    maskPassword "--admin_password -b T".toList "***".toList = "--admin_password *** ***".toList := by
  repeat rw [String.toList_ofList]
  decide +kernel

/-- KF_C04_NESTED, reproduced by the model: the value `token=b` is taken for a rendering of `token` -/
theorem known_finding_nested_witness :
    maskPassword "<sslkey>token=b</sslkey>".toList "***".toList = "<sslkey>token=***".toList := by
  repeat rw [String.toList_ofList]
  decide +kernel

/-! ### the whole model on one message per rendering, and the classes on sample characters -/

example : maskPassword "login PASSWORD = 'p w=<d>' ok".toList "***".toList
    = "login PASSWORD = '***' ok".toList := by
  repeat rw [String.toList_ofList]
  decide +kernel
example : maskPassword "run --Token9 \t a+b(c)[d] next".toList "???".toList
    = "run --Token9 \t ??? next".toList := by
  repeat rw [String.toList_ofList]
  decide +kernel
example : maskPassword "<AdminPass>it's \"x\" = y</adminpass2> tail".toList "#".toList
    = "<AdminPass>#</adminpass2> tail".toList := by
  repeat rw [String.toList_ofList]
  decide +kernel
example : maskPassword "{'original_password' : u'a b=c'}".toList "***".toList
    = "{'original_password' : u'***'}".toList := by
  repeat rw [String.toList_ofList]
  decide +kernel
example : maskPassword "['nova', 'boot', '--secret_uuid', '--x', 'p$^w']".toList "***".toList
    = "['nova', 'boot', '--secret_uuid', '--x', '***']".toList := by
  repeat rw [String.toList_ofList]
  decide +kernel
example : maskPassword "cmd sys_pswd --value s3cr3t! rest".toList "***".toList
    = "cmd sys_pswd --value *** rest".toList := by
  repeat rw [String.toList_ofList]
  decide +kernel
example : maskPassword "fernetkey \"abc def\" x".toList "***".toList = "fernetkey \"***\" x".toList := by
  repeat rw [String.toList_ofList]
  decide +kernel

example :
    let K := "token".toList; let K' := "ToKen".toList
    keyMatch K K' = true ∧ keyMatch K "toKen".toList = true ∧ keyMatch "secret".toList "ſecret".toList = true ∧
    (∀ c ∈ "a b=<c>".toList, nquoteC.test c = true) ∧ (∀ c ∈ "it's \"x\"".toList, nltC.test c = true) ∧
    (∀ c ∈ "a+b(c)[d]".toList, dashValC.test c = true) ∧ (∀ c ∈ "s3cr3t!".toList, nwsC.test c = true) ∧
    (∀ c ∈ "valueX_`".toList, flagC.test c = true) ∧ quoteC.test '"' = true ∧ quoteC.test '\'' = true := by
  repeat rw [String.toList_ofList]
  decide +kernel

end Oslo.Mask
