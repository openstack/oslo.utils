/-
C15 — EUI-64, host:port and URL helpers round-trip (oslo_utils.netutils).

Property theorems only; helper facts are `lemma_…` (here, or in
OsloProofs/Lemmas/C15Arith.lean and C15Text.lean).  The models are
OsloModel/Eui64.lean and OsloModel/HostPort.lean.

Quantifiers: every 48-bit MAC, every network address (the integer
`netaddr.IPNetwork(prefix).first`), every host of the three classes below, every
string of port digits, every default port, every `parse_qsl` result, every
five-tuple the standard library's `urlsplit` may return.
-/
import OsloModel.Eui64
import OsloModel.HostPort
import OsloProofs.Lemmas.C15Arith
import OsloProofs.Lemmas.C15Text
namespace Oslo.C15
open Oslo.Eui64 Oslo.HostPort

deriving instance DecidableEq for Except

/-- **Round trip.**  For every 48-bit MAC and every IPv6 network address whose low 64 bits are
    zero (every prefix of length ≤ 64; host bits of the prefix text never reach the model because
    the code uses `prefix.first`), get_ipv6_addr_by_EUI64 returns an IPv6 address and
    get_mac_addr_by_ipv6 recovers the MAC from it. -/
theorem mac_of_eui64_addr (net mac : Nat) (hmac : mac < 2^48) (hnet : net % 2^64 = 0)
    (hlt : net < 2^128) :
    ∃ a, addrByEUI64 (.net net) (.eui48 mac) = .ok (.v6 a) ∧ macOf (.v6 a) = .ok mac :=
  ⟨_, lemma_addr_ok net mac hmac hnet hlt, congrArg Except.ok (lemma_macOfNat_combine net mac hmac hnet)⟩

example : (0x00163e334455 : Nat) < 2^48 ∧ (0x20010db8 <<< 96 : Nat) % 2^64 = 0 ∧
    (0x20010db8 <<< 96 : Nat) < 2^128 := by decide
/-- 2001:db8::/64 + 00:16:3e:33:44:55 = 2001:db8::216:3eff:fe33:4455, and back -/
example : addrByEUI64 (.net (0x20010db8 <<< 96)) (.eui48 0x00163e334455)
    = .ok (.v6 0x20010db80000000002163efffe334455) ∧
    macOf (.v6 0x20010db80000000002163efffe334455) = .ok 0x00163e334455 := by decide

/-- **Injectivity.**  Within one network (low 64 bits zero) two different 48-bit MACs never get the same
    address: if the addresses agree, so do the MACs (a consequence of the round trip) -/
theorem eui64_injective (net mac mac' : Nat) (hmac : mac < 2^48) (hmac' : mac' < 2^48)
    (hnet : net % 2^64 = 0) (hlt : net < 2^128)
    (h : addrByEUI64 (.net net) (.eui48 mac) = addrByEUI64 (.net net) (.eui48 mac')) : mac = mac' := by
  obtain ⟨a, ha, hm⟩ := mac_of_eui64_addr net mac hmac hnet hlt
  obtain ⟨a', ha', hm'⟩ := mac_of_eui64_addr net mac' hmac' hnet hlt
  rw [ha, ha'] at h
  have haa : a = a' := by injection h with h; injection h
  subst haa
  rw [hm] at hm'
  injection hm'

/-- the address is a function of the network and the MAC only (two calls agree), and it always succeeds on
    this domain: never an error for a 48-bit MAC and a ≤ /64 IPv6 network -/
theorem eui64_total_on_domain (net mac : Nat) (hmac : mac < 2^48) (hnet : net % 2^64 = 0) (hlt : net < 2^128) :
    ∃ a, addrByEUI64 (.net net) (.eui48 mac) = .ok (.v6 a) ∧ a / 2^64 = net / 2^64 :=
  ⟨_, lemma_addr_ok net mac hmac hnet hlt,
    (lemma_mixed_radix_digits (lemma_combine_layout net mac hmac hnet) (lemma_halves_lt mac hmac).1
      (by decide : 0xFFFE < 2^16) (lemma_halves_lt mac hmac).2).1⟩

/-- The zero-low-64-bits hypothesis is needed: for the /128 "prefix" ::1 and the MAC
    00:00:00:00:00:00 the code adds the interface identifier onto the host part and the MAC that
    comes back is 00:00:00:00:00:01 (the real code returns ::200:ff:fe00:1 for `('::1', 0)`). -/
theorem mac_not_recovered_when_low64_nonzero :
    ∃ net mac a, mac < 2^48 ∧ net < 2^128 ∧ addrByEUI64 (.net net) (.eui48 mac) = .ok (.v6 a) ∧
      macOf (.v6 a) ≠ .ok mac :=
  ⟨1, 0, 0x020000fffe000001, by decide⟩

/-- **Layout.**  With `a` the produced address: the upper 64 bits are the network address; the
    interface identifier is [MAC octets 0-2 with bit 0x02 of octet 0 inverted] ff fe [MAC octets 3-5].
    In bit positions of the 128-bit address (bit 0 = least significant): bits 24..39 are 0xfffe,
    bits 0..23 are MAC bits 0..23, bits 40..63 are MAC bits 24..47 except that bit 57 (the
    universal/local bit, MAC bit 41) is inverted. -/
theorem eui64_layout (net mac : Nat) (hmac : mac < 2^48) (hnet : net % 2^64 = 0) :
    let a := combine net (eui64Of48 mac)
    a / 2^64 = net / 2^64 ∧
    a / 2^40 % 2^24 = (mac / 2^24) ^^^ 0x020000 ∧
    a / 2^24 % 2^16 = 0xFFFE ∧
    a % 2^24 = mac % 2^24 ∧
    a.testBit 57 = !mac.testBit 41 ∧
    (∀ i, i < 24 → i ≠ 17 → a.testBit (40 + i) = mac.testBit (24 + i)) := by
  intro a
  obtain ⟨hhi, hlo⟩ := lemma_halves_lt mac hmac
  obtain ⟨h1, h2, h3, h4⟩ := lemma_mixed_radix_digits (lemma_combine_layout net mac hmac hnet) hhi
    (by decide : 0xFFFE < 2^16) hlo
  have hbits : ∀ i, i < 24 → a.testBit (40 + i) = (mac.testBit (24 + i) ^^ decide (17 = i)) := by
    intro i hi
    rw [lemma_testBit_field a hi, h2, Nat.testBit_xor, Nat.testBit_div_two_pow,
      Nat.testBit_two_pow, Nat.add_comm]
  refine ⟨h1, h2, h3, h4, ?_, ?_⟩
  · simpa using hbits 17 (by decide)
  · intro i hi hne
    rw [hbits i hi, decide_eq_false (Ne.symm hne), Bool.xor_false]

/-- the value get_mac_addr_by_ipv6 hands to `netaddr.EUI(int)` is always a 48-bit number, for any
    address whatsoever: `EUI()` never raises there and always yields an EUI-48 -/
theorem macOfNat_lt (a : Nat) : macOfNat a < 2^48 := by
  rw [lemma_macOfNat_arith]
  refine Nat.xor_lt_two_pow ?_ (by decide)
  have h1 := Nat.mod_lt (a / 2^40) (Nat.two_pow_pos 24)
  have h2 := Nat.mod_lt a (Nat.two_pow_pos 24)
  generalize a / 2^40 % 2^24 = hi at h1 ⊢
  generalize a % 2^24 = lo at h2 ⊢
  omega

/-- an IPv4 address given as prefix raises ValueError, whatever the MAC argument is -/
theorem eui64_rejects_ipv4_prefix (m : MacIn) :
    addrByEUI64 .ipv4Addr m = .error .valueError := rfl

/-- **Error contract.**  A prefix that is not a string, is an IPv4 address or cannot be parsed, or a
    MAC that `netaddr.EUI` rejects, always ends in an error; and whatever the inputs, the only
    errors are ValueError and TypeError (AddrFormatError never escapes). -/
theorem eui64_error_contract (p : PrefixIn) (m : MacIn) :
    ((p = .notStr ∨ p = .ipv4Addr ∨ p = .malformed ∨ m = .wrongType ∨ m = .malformed) →
      ∃ e, addrByEUI64 p m = .error e) ∧
    (∀ e, addrByEUI64 p m = .error e → e = .valueError ∨ e = .typeError) := by
  -- once the MAC's value `v` is there, the only error left is the ValueError of line 220
  have hnet : ∀ e first v, addrByEUI64 (.net first) m = .error e → eui64Value m = .ok v →
      e = .valueError := by
    intro e first v h hv
    simp only [addrByEUI64, hv] at h
    split at h
    · cases h
    · exact (Except.error.inj h).symm
  constructor
  · rintro (rfl | rfl | rfl | rfl | rfl)
    · exact ⟨_, rfl⟩
    · exact ⟨_, rfl⟩
    · cases m <;> exact ⟨_, rfl⟩
    · cases p <;> exact ⟨_, rfl⟩
    · cases p <;> exact ⟨_, rfl⟩
  · intro e h
    cases p with
    | notStr => exact Or.inr (Except.error.inj h).symm
    | ipv4Addr => exact Or.inl (Except.error.inj h).symm
    | malformed =>
      cases m with
      | wrongType => exact Or.inr (Except.error.inj h).symm
      | malformed | eui48 v | eui64 v => exact Or.inl (Except.error.inj h).symm
    | net first =>
      cases m with
      | wrongType => exact Or.inr (Except.error.inj h).symm
      | malformed => exact Or.inl (Except.error.inj h).symm
      | eui48 v => exact Or.inl (hnet e first _ h rfl)
      | eui64 v => exact Or.inl (hnet e first _ h rfl)

example : addrByEUI64 .notStr (.eui48 5) = .error .typeError ∧
    addrByEUI64 (.net 0) .malformed = .error .valueError ∧
    addrByEUI64 (.net (2^128 - 1)) (.eui48 1) = .error .valueError := by decide

/-- a host name (or anything else) without ':' that does not start with '[' -/
def isName (h : List Char) : Bool := !h.contains ':' && h.head? != some '['

/-- dotted-quad IPv4 text, as accepted by inet_pton(AF_INET) -/
def isIPv4Text (h : List Char) : Bool := pton4 h

/-- IPv6 text as accepted by inet_pton(AF_INET6), optionally followed by `%scope` where the scope
    has 1..15 characters, none of them ']' (nor '%': the split is at the last '%') -/
def isIPv6Host (h : List Char) : Bool :=
  match rsplit1 '%' h with
  | (a, none) => pton6 a
  | (a, some sc) => pton6 a && decide (1 ≤ sc.length) && decide (sc.length ≤ 15) && !sc.contains ']'

/-- port text: a non-empty string of ASCII digits (at most `sys.get_int_max_str_digits()` of them) -/
def isPortDigits (ds : List Char) : Bool :=
  !ds.isEmpty && ds.all isDigit && decide (ds.length ≤ maxStrDigits)

theorem lemma_portDigits (ds : List Char) (h : isPortDigits ds = true) :
    ds ≠ [] ∧ (∀ c ∈ ds, isDigit c = true) ∧ ds.length ≤ maxStrDigits ∧ ':' ∉ ds ∧ ']' ∉ ds := by
  simp [isPortDigits] at h
  obtain ⟨⟨h1, h2⟩, h3⟩ := h
  exact ⟨h1, h2, h3, fun hc => absurd (h2 _ hc) (by decide), fun hc => absurd (h2 _ hc) (by decide)⟩

theorem lemma_isName (h : List Char) : isName h = true ↔ ':' ∉ h ∧ h.head? ≠ some '[' := by
  simp [isName]

/-- dotted quads are names in the sense above: ':' and '[' are neither digits nor '.' -/
theorem lemma_ipv4_isName (h : List Char) (h4 : isIPv4Text h = true) : isName h = true := by
  have key : ∀ c, isDigit c = false → c ≠ '.' → c ∉ h := fun c h1 h2 hc =>
    (lemma_pton4_chars h h4 c hc).elim (by simp [h1]) h2
  exact (lemma_isName h).2 ⟨key ':' (by decide) (by decide),
    fun hh => key '[' (by decide) (by decide) (List.mem_of_head? hh)⟩

theorem lemma_okV6Char_ne (c : Char) (h : okV6Char c) : c ≠ ']' ∧ c ≠ '%' ∧ c ≠ '[' := by
  refine ⟨?_, ?_, ?_⟩ <;> (intro e; subst e; rcases h with h | h | h <;> revert h <;> decide)

theorem lemma_ipv6Host (h : List Char) (h6 : isIPv6Host h = true) :
    isValidIPv6 h = true ∧ ']' ∉ h := by
  unfold isIPv6Host at h6
  rcases hr : rsplit1 '%' h with ⟨a, _ | sc⟩
  · rw [hr] at h6
    obtain ⟨rfl, _⟩ := (lemma_rsplit1_spec '%' h).2 a hr
    have hne : h ≠ [] := by rintro rfl; exact absurd h6 (by decide)
    refine ⟨?_, fun hc => (lemma_okV6Char_ne _ (lemma_pton6_chars h h6 _ hc)).1 rfl⟩
    rw [isValidIPv6, if_neg hne, hr]
    exact h6
  · rw [hr] at h6
    simp only [Bool.and_eq_true, decide_eq_true_eq, Bool.not_eq_true', List.contains_eq_mem,
      decide_eq_false_iff_not] at h6
    obtain ⟨⟨⟨hp, hl1⟩, hl2⟩, hsc⟩ := h6
    obtain ⟨e, _⟩ := (lemma_rsplit1_spec '%' h).1 a sc hr
    refine ⟨?_, ?_⟩
    · rw [isValidIPv6, if_neg (by rw [e]; exact List.append_ne_nil_of_right_ne_nil _ (List.cons_ne_nil _ _)), hr]
      show (if (decide (sc.length < 1) || decide (sc.length > 15)) = true then false else pton6 a) = true
      rw [if_neg (by simp only [Bool.or_eq_true, decide_eq_true_eq]; omega)]
      exact hp
    · rw [e]
      intro hc
      rcases List.mem_append.mp hc with hc | hc
      · exact (lemma_okV6Char_ne _ (lemma_pton6_chars a hp _ hc)).1 rfl
      · rcases List.mem_cons.mp hc with hc | hc
        · exact absurd hc (by decide)
        · exact hsc hc

theorem lemma_convPort_digits (d : DefPort) (ds : List Char) (h : isPortDigits ds = true) :
    convPort d (.text ds) = .ok (some (decVal ds : Int)) := by
  obtain ⟨h1, h2, h3, _, _⟩ := lemma_portDigits ds h
  simp [convPort, lemma_pyInt_digits ds h1 h2 h3, Except.map]

theorem lemma_escape_of_no_colon (h : List Char) (hno : ':' ∉ h) : escapeIPv6 h = h := by
  simp [escapeIPv6, lemma_isValidIPv6_no_colon h hno]

/-! parse_host_port in closed form, one statement per shape of the address -/

theorem lemma_php_bare (a : List Char) (d : DefPort) (hne : a ≠ []) (hh : a.head? ≠ some '[')
    (hc : a.count ':' ≠ 1) :
    parseHostPort (some a) d = (convPort d .dflt).map (fun q => (some a, q)) := by
  cases a with
  | nil => exact absurd rfl hne
  | cons c rest =>
    have hc' : c ≠ '[' := by simpa using hh
    rw [parseHostPort, if_neg hc', parseUnbracketed, if_neg hc]

theorem lemma_php_host_port (h ds : List Char) (d : DefPort) (hno : ':' ∉ h)
    (hh : h.head? ≠ some '[') (hds : ':' ∉ ds) :
    parseHostPort (some (h ++ ':' :: ds)) d
      = (convPort d (.text ds)).map (fun q => (some h, q)) := by
  have hcount : (h ++ ':' :: ds).count ':' = 1 := by
    rw [List.count_append, List.count_cons_self, List.count_eq_zero.mpr hno,
      List.count_eq_zero.mpr hds]
  have hsplit : splitOn ':' (h ++ ':' :: ds) = [h, ds] := by
    rw [lemma_splitOn_append ':' h ds hno, lemma_splitOn_of_notMem ':' ds hds]
  cases h with
  | nil => rw [List.nil_append] at hcount hsplit ⊢
           rw [parseHostPort, if_neg (by decide), parseUnbracketed, if_pos hcount, hsplit]
  | cons c rest =>
    have hc' : c ≠ '[' := by simpa using hh
    rw [List.cons_append] at hcount hsplit ⊢
    rw [parseHostPort, if_neg hc', parseUnbracketed, if_pos hcount, hsplit]

theorem lemma_php_bracketed (h : List Char) (d : DefPort) (hb : ']' ∉ h) :
    parseHostPort (some ('[' :: (h ++ [']']))) d = (convPort d .dflt).map (fun q => (some h, q)) ∧
    ∀ ds, ':' ∉ ds → ']' ∉ ds → parseHostPort (some ('[' :: (h ++ ']' :: ':' :: ds))) d
      = (convPort d (.text ds)).map (fun q => (some h, q)) := by
  refine ⟨?_, fun ds hds hbds => ?_⟩
  · rw [parseHostPort, if_pos rfl, parseBracketed, lemma_splitOn_append ']' h [] hb]
    simp [splitOn]
  · have hb2 : ']' ∉ ':' :: ds := by simpa using hbds
    have hs : splitOn ':' (':' :: ds) = [[], ds] := by
      simpa [lemma_splitOn_of_notMem ':' ds hds] using lemma_splitOn_append ':' [] ds (by simp)
    rw [parseHostPort, if_pos rfl, parseBracketed, lemma_splitOn_append ']' h _ hb,
      lemma_splitOn_of_notMem ']' _ hb2]
    simp [hs]

theorem lemma_host_classes (h : List Char)
    (hh : isName h = true ∨ isIPv4Text h = true ∨ isIPv6Host h = true) :
    (escapeIPv6 h = h ∧ ':' ∉ h ∧ h.head? ≠ some '[') ∨
    (escapeIPv6 h = '[' :: (h ++ [']']) ∧ ']' ∉ h) := by
  rcases hh with hn | h4 | h6
  · have ⟨hno, hhead⟩ := (lemma_isName h).1 hn
    exact Or.inl ⟨lemma_escape_of_no_colon h hno, hno, hhead⟩
  · have ⟨hno, hhead⟩ := (lemma_isName h).1 (lemma_ipv4_isName h h4)
    exact Or.inl ⟨lemma_escape_of_no_colon h hno, hno, hhead⟩
  · obtain ⟨hv, hnb⟩ := lemma_ipv6Host h h6
    exact Or.inr ⟨by simp [escapeIPv6, hv], hnb⟩

/-- **Round trip.**  For every host that is a name without ':' (not starting with '['), a dotted
    quad, or IPv6 text with an optional scope free of ']', every string of port digits and every
    default port: `parse_host_port(escape_ipv6(host) + ':' + port)` is `(host, int(port))`. -/
theorem hostport_roundtrip (h ds : List Char) (d : DefPort)
    (hh : isName h = true ∨ isIPv4Text h = true ∨ isIPv6Host h = true)
    (hp : isPortDigits ds = true) :
    parseHostPort (some (escapeIPv6 h ++ ':' :: ds)) d = .ok (some h, some (decVal ds : Int)) := by
  obtain ⟨_, _, _, hcolon, hbr⟩ := lemma_portDigits ds hp
  rcases lemma_host_classes h hh with ⟨hesc, hno, hhead⟩ | ⟨hesc, hnb⟩
  · rw [hesc, lemma_php_host_port h ds d hno hhead hcolon, lemma_convPort_digits d ds hp]
    rfl
  · rw [hesc, List.cons_append, List.append_assoc, List.singleton_append,
      (lemma_php_bracketed h d hnb).2 ds hcolon hbr, lemma_convPort_digits d ds hp]
    rfl

-- non-vacuity: one host of each class, with a port
example : isName "server01".toList = true ∧ isIPv4Text "192.168.1.10".toList = true ∧
    isIPv6Host "2001:db8::1".toList = true ∧ isIPv6Host "fe80::1%eth0".toList = true ∧
    isIPv6Host "::ffff:1.2.3.4".toList = true ∧ isPortDigits "65535".toList = true ∧
    decVal "65535".toList = 65535 := by
  -- a literal unifies with `String.ofList _`; this spares the kernel decoding it
  repeat rw [String.toList_ofList]
  decide +kernel
example : escapeIPv6 "fe80::1%eth0".toList = "[fe80::1%eth0]".toList ∧
    parseHostPort (some "[fe80::1%eth0]:8080".toList) .none
      = .ok (some "fe80::1%eth0".toList, some 8080) := by
  repeat rw [String.toList_ofList]
  decide +kernel

-- zone ids that look like percent-escapes are ordinary members of the class: nothing is decoded
example : isIPv6Host "fe80::1%25".toList = true ∧ isIPv6Host "fe80::1%251".toList = true ∧
    isIPv6Host "fe80::1%3A80".toList = true ∧
    parseHostPort (some (escapeIPv6 "fe80::1%25".toList ++ ":80".toList)) .none
      = .ok (some "fe80::1%25".toList, some 80) ∧
    parseHostPort (some (escapeIPv6 "fe80::1%251".toList)) .none
      = .ok (some "fe80::1%251".toList, none) := by
  repeat rw [String.toList_ofList]
  decide +kernel

/-- The restriction on the scope is needed: `escape_ipv6` accepts a scope containing ']' (any
    1..15 characters pass `is_valid_ipv6`), and `parse_host_port` then fails to unpack. -/
theorem hostport_scope_with_bracket_fails :
    isValidIPv6 "fe80::1%]".toList = true ∧
    parseHostPort (some (escapeIPv6 "fe80::1%]".toList ++ ":80".toList)) .none
      = .error .valueError := by
  repeat rw [String.toList_ofList]
  decide +kernel

/-- `int(default_port)`, or `None` -/
def defaultValue : DefPort → Except HostPort.Err (Option Int)
  | .none => .ok none
  | .int n => .ok (some n)
  | .str s => (pyInt s).map some

theorem lemma_convPort_dflt (d : DefPort) : convPort d .dflt = defaultValue d := by
  cases d <;> rfl

/-- **Missing port.**  For every non-empty host of the three classes, `parse_host_port(escape_ipv6(host),
    default_port)` is `(host, default_port)` (converted with `int()` when it is not `None`). -/
theorem hostport_default (h : List Char) (d : DefPort) (hne : h ≠ [])
    (hh : isName h = true ∨ isIPv4Text h = true ∨ isIPv6Host h = true) :
    parseHostPort (some (escapeIPv6 h)) d = (defaultValue d).map (fun q => (some h, q)) := by
  rcases lemma_host_classes h hh with ⟨hesc, hno, hhead⟩ | ⟨hesc, hnb⟩
  · rw [hesc, lemma_php_bare h d hne hhead (by rw [List.count_eq_zero.mpr hno]; decide),
      lemma_convPort_dflt]
  · rw [hesc, (lemma_php_bracketed h d hnb).1, lemma_convPort_dflt]

example : parseHostPort (some (escapeIPv6 "::1".toList)) (.int 1234)
    = .ok (some "::1".toList, some 1234) := by
  rw [String.toList_ofList]
  decide +kernel

/-- A bare (unescaped) IPv6 text is taken whole as the host and gets the default port — the
    docstring's `parse_host_port('2001:db8:85a3::8a2e:370:7334', default_port=1234)` — because an
    accepted IPv6 text never contains exactly one ':'. -/
theorem hostport_default_unescaped_v6 (a : List Char) (d : DefPort) (h6 : pton6 a = true) :
    parseHostPort (some a) d = (defaultValue d).map (fun q => (some a, q)) := by
  have hne : a ≠ [] := by rintro rfl; exact absurd h6 (by decide)
  have hhead : a.head? ≠ some '[' := fun hh =>
    (lemma_okV6Char_ne _ (lemma_pton6_chars a h6 _ (List.mem_of_head? hh))).2.2 rfl
  rw [lemma_php_bare a d hne hhead (lemma_pton6_count_ne_one a h6), lemma_convPort_dflt]

example : pton6 "2001:db8:85a3::8a2e:370:7334".toList = true := by
  rw [String.toList_ofList]
  decide +kernel

/-- `None` or the empty string give `(None, None)` whatever the default port -/
theorem hostport_empty (d : DefPort) :
    parseHostPort none d = .ok (none, none) ∧ parseHostPort (some []) d = .ok (none, none) :=
  ⟨rfl, rfl⟩

theorem lemma_pyInt_no_indexError (s : List Char) : pyInt s ≠ .error .indexError := by
  unfold pyInt
  split
  · simp
  · simp only
    split
    · simp
    · split <;> simp

theorem lemma_convPort_no_indexError (d : DefPort) (p : PortSrc)
    (f : Option Int → Option (List Char) × Option Int) :
    (convPort d p).map f ≠ .error .indexError := by
  cases p with
  | text s => simp [convPort, lemma_map_error, lemma_pyInt_no_indexError]
  | dflt => cases d <;> simp [convPort, lemma_map_error, lemma_pyInt_no_indexError]

/-- the model's IndexError outcome (`_port.split(':')[1]` out of range) cannot happen: the code
    only indexes after checking `':' in _port` -/
theorem hostport_no_indexError (address : Option (List Char)) (d : DefPort) :
    parseHostPort address d ≠ .error .indexError := by
  unfold parseHostPort
  split
  · simp
  · simp
  · split
    · unfold parseBracketed
      split
      · split
        · next host port _ hin =>
          obtain ⟨a, b, rest, e⟩ := lemma_splitOn_two ':' port hin
          rw [e]; exact lemma_convPort_no_indexError _ _ _
        · exact lemma_convPort_no_indexError _ _ _
      · simp
    · unfold parseUnbracketed
      split
      · split
        · exact lemma_convPort_no_indexError _ _ _
        · simp
      · exact lemma_convPort_no_indexError _ _ _

/-- **Agreement with the standard library.**  On any five-tuple in which the path contains no '?'
    and, when fragments are allowed, no '#' — which is what `urllib.parse.urlsplit` returns — the
    wrapper's two fix-ups change nothing: netutils.urlsplit returns the library's components.
    (`urlsplit` itself is a parameter: that it satisfies the hypotheses is checked against the real
    library on every generated URL, not proved.) -/
theorem urlsplit_agrees (af : Bool) (r : Split5)
    (hq : '?' ∉ r.path) (hf : af = true → '#' ∉ r.path) : urlsplitFix af r = r := by
  unfold urlsplitFix
  cases af
  · simp [hq]
  · simp [hq, hf rfl]

example : ('?' ∉ "/a/b".toList) ∧ ('#' ∉ "/a/b".toList) := by
  rw [String.toList_ofList]
  decide +kernel

theorem lemma_takeWhile_no_sep (sep : Char) (s : List Char) : sep ∉ s.takeWhile (· ≠ sep) := by
  intro h
  have hall := @List.all_takeWhile _ (· ≠ sep) s
  rw [List.all_eq_true] at hall
  simpa using hall _ h

/-- whatever five-tuple the library hands over, after the fix-ups the path is free of '?', and of
    '#' when fragments are allowed -/
theorem urlsplit_fix_postcondition (af : Bool) (r : Split5) :
    '?' ∉ (urlsplitFix af r).path ∧ (af = true → '#' ∉ (urlsplitFix af r).path) := by
  unfold urlsplitFix
  by_cases h1 : (af && r.path.contains '#') = true
  · simp only [h1, if_true]
    have hno : '#' ∉ (split1 '#' r.path).1 := lemma_takeWhile_no_sep '#' r.path
    by_cases h2 : (split1 '#' r.path).1.contains '?' = true
    · simp only [h2, if_true]
      refine ⟨lemma_takeWhile_no_sep '?' _, fun _ hc => hno ?_⟩
      exact (List.takeWhile_sublist _).subset hc
    · simp only [h2, Bool.false_eq_true, if_false]
      exact ⟨by simpa using h2, fun _ => hno⟩
  · simp only [h1, Bool.false_eq_true, if_false]
    by_cases h2 : r.path.contains '?' = true
    · simp only [h2, if_true]
      refine ⟨lemma_takeWhile_no_sep '?' _, fun ha hc => ?_⟩
      have hc' : '#' ∈ r.path := (List.takeWhile_sublist _).subset hc
      simp [ha] at h1
      exact h1 hc'
    · simp only [h2, Bool.false_eq_true, if_false]
      refine ⟨by simpa using h2, fun ha => ?_⟩
      simpa [ha] using h1

/-- all values given for `k`, in query order -/
def valuesFor (qsl : List (List Char × List Char)) (k : List Char) : List (List Char) :=
  (qsl.filter (fun kv => kv.1 = k)).map Prod.snd

/-- **params(), collapse=True**: each name maps to the last value given for it (and names that do
    not occur are absent) -/
theorem params_last (query : List Char) (qsl : List (List Char × List Char)) (k : List Char)
    (hq : query ≠ []) :
    dictGet (params query qsl true) k = (valuesFor qsl k).getLast?.map .one := by
  simp only [params, hq, if_false, if_true, lemma_dictGet_map_one, paramsCollapse]
  rw [lemma_foldl_collapse]
  simp [valuesFor, dictGet]

/-- **params(), collapse=False**: a name given once maps to its value, a name given several times
    to the list of all its values in order, other names are absent -/
theorem params_all (query : List Char) (qsl : List (List Char × List Char)) (k : List Char)
    (hq : query ≠ []) :
    dictGet (params query qsl false) k = ofVals (valuesFor qsl k) := by
  simp only [params, hq, if_false, Bool.false_eq_true, paramsAll]
  have c := lemma_foldl_invariant Canon allStep lemma_allStep_canon qsl []
    (by intro k vs h; simp [dictGet] at h)
  rw [lemma_ofVals_valsOf _ (c k), lemma_foldl_allStep]
  simp [valuesFor, dictGet, valsOf]

/-- an empty query gives the empty dict -/
theorem params_empty_query (qsl : List (List Char × List Char)) (c : Bool) :
    params [] qsl c = [] := by simp [params]

/-- the model's association list is a dict: names are distinct -/
theorem params_keys_distinct (query : List Char) (qsl : List (List Char × List Char)) (c : Bool) :
    ((params query qsl c).map Prod.fst).Nodup := by
  unfold params
  split
  · simp
  · split
    · simpa [paramsCollapse, List.map_map, Function.comp_def] using
        lemma_foldl_invariant (fun d => (d.map Prod.fst).Nodup) _
          (fun d kv => lemma_dictSet_nodup d kv.1 kv.2) qsl [] (by simp)
    · exact lemma_foldl_invariant _ _ (fun d kv => lemma_allStep_nodup d kv) qsl [] (by simp)

-- a=1&a=2&b=3&a=4 : last value / all values
example :
    let qsl := [("a".toList, "1".toList), ("a".toList, "2".toList), ("b".toList, "3".toList),
                ("a".toList, "4".toList)]
    params "x".toList qsl true = [("a".toList, .one "4".toList), ("b".toList, .one "3".toList)] ∧
    params "x".toList qsl false
      = [("a".toList, .many ["1".toList, "2".toList, "4".toList]), ("b".toList, .one "3".toList)] := by
  repeat rw [String.toList_ofList]
  decide +kernel

end Oslo.C15
