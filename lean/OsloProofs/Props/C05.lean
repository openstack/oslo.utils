/-
C05 — inspector memory is bounded by a constant, whatever the stream claims.

`retained` is `sum(context_info.values())`.  Theorems hold for all ten formats (VHDX and
VMDK included), every byte string, every chunking, **every prefix of the feed**, and also
when feeding continues after an inspector raised.  The numeric step is `decide` over the
*generated* initial regions and constants, so removing a clamp or enlarging a region in the
code breaks an obligation here.
-/
import OsloProofs.Lemmas.Bounded
namespace Oslo.Insp

/-- feed every chunk whether or not an earlier one raised (a direct user may do that) -/
def feedAll (s : Insp) (chunks : List Bytes) : Insp := chunks.foldl (fun s c => (eatChunk s c).1) s

/-- every format's freshly initialised inspector satisfies the invariant -/
theorem init_inv (f : Fmt) (s0 : Insp) (h0 : Insp.init f = some s0) : SInv s0 :=
  lemma_init_sinv h0

theorem lemma_feedAll_acts (chunks : List Bytes) : ∀ (s : Insp), Acts s.fmt s (feedAll s chunks) := by
  induction chunks with
  | nil => exact fun s => .refl s
  | cons c cs ih =>
    intro s
    have h1 := lemma_eatChunk_acts s c
    have h2 := ih (eatChunk s c).1
    rw [h1.fmt_eq] at h2
    exact h1.trans h2

/-- **region_data_le_length / region_caps** — in every state reachable by feeding, every region
    holds at most `length` bytes, `length` is at most the cap of its name, names are distinct and
    come from the format's fixed list. -/
theorem reachable_inv (f : Fmt) (s0 : Insp) (h0 : Insp.init f = some s0) (chunks : List Bytes) :
    SInv (feedAll s0 chunks) ∧ (feedAll s0 chunks).fmt = f := by
  have hA := lemma_feedAll_acts chunks s0
  exact ⟨hA.sinv (init_inv f s0 h0), by rw [hA.fmt_eq, lemma_init_eq h0]⟩

/-- the caps add up to less than the bound: 1.5 MiB for VMDK, 512 KiB for every other format
    (over the generated tables and constants) -/
theorem caps_below_limit (f : Fmt) : ((allowed f).map (cap f)).sum ≤ limit f := by
  cases f <;> decide

theorem lemma_sinv_retained (s : Insp) (h : SInv s) : s.retained ≤ limit s.fmt :=
  Nat.le_trans (lemma_retained_le s.fmt s.regions h) (caps_below_limit s.fmt)

/-- **retained_le_bound** — after any chunk list (any prefix of any chunking of any stream, with or
    without errors along the way) the bytes an inspector retains never exceed the bound. -/
theorem retained_le_bound (f : Fmt) (s0 : Insp) (h0 : Insp.init f = some s0) (chunks : List Bytes) :
    (feedAll s0 chunks).retained ≤ limit f := by
  obtain ⟨h, hf⟩ := reachable_inv f s0 h0 chunks
  exact hf ▸ lemma_sinv_retained _ h

/-- … also after `finish()` -/
theorem retained_le_bound_finished (f : Fmt) (s0 : Insp) (h0 : Insp.init f = some s0)
    (chunks : List Bytes) : (feedAll s0 chunks).finish.retained ≤ limit f := by
  obtain ⟨h, hf⟩ := reachable_inv f s0 h0 chunks
  exact hf ▸ lemma_sinv_retained _ (lemma_finish_inv _ h)

/-- the same under InspectWrapper's discipline (an inspector that raised is not fed again) -/
theorem retained_le_bound_wrapper (f : Fmt) (s0 : Insp) (h0 : Insp.init f = some s0)
    (chunks : List Bytes) : (runChunks s0 chunks).1.retained ≤ limit f := by
  have hA := lemma_feed_acts s0 chunks
  have hf : (feed s0 chunks).1.fmt = f := by rw [hA.fmt_eq, lemma_init_fmt h0]
  exact hf ▸ lemma_sinv_retained _ (lemma_finish_inv _ (hA.sinv (init_inv f s0 h0)))

/-- each single region is bounded by its own cap -/
theorem region_le_cap (f : Fmt) (s0 : Insp) (h0 : Insp.init f = some s0) (chunks : List Bytes) :
    ∀ p ∈ (feedAll s0 chunks).regions, p.2.data.length ≤ p.2.length ∧ p.2.length ≤ cap f p.1 := by
  obtain ⟨h, hf⟩ := reachable_inv f s0 h0 chunks
  intro p hp
  obtain ⟨_, b, c, _⟩ := h.each p hp
  rw [hf] at c
  exact ⟨b, c⟩

theorem lemma_all_inspectors_le (g : Insp → Nat)
    (hg : ∀ f s0, Insp.init f = some s0 → g s0 ≤ limit f) : ∀ (l : List Fmt),
    (l.filterMap (fun f => (Insp.init f).map g)).sum ≤ (l.map limit).sum := by
  intro l
  induction l with
  | nil => exact Nat.le_refl _
  | cons f l ih =>
    rw [List.filterMap_cons, List.map_cons, List.sum_cons]
    cases h0 : Insp.init f with
    | none => exact Nat.le_trans ih (Nat.le_add_left _ _)
    | some s0 =>
      rw [Option.map_some, List.sum_cons]
      exact Nat.add_le_add (hg f s0 h0) ih

/-- **the whole detector** — the bytes retained by all inspectors an `InspectWrapper` can hold (one per
    format), after any chunk list, add up to at most the sum of the per-format bounds … -/
theorem retained_all_inspectors_le (chunks : List Bytes) :
    (Fmt.all.filterMap (fun f => (Insp.init f).map (fun s0 => (feedAll s0 chunks).retained))).sum
      ≤ (Fmt.all.map limit).sum :=
  lemma_all_inspectors_le _ (fun f s0 h0 => retained_le_bound f s0 h0 chunks) _

/-- the same under `InspectWrapper`'s discipline (failed inspectors no longer fed, all finished at close) -/
theorem retained_all_inspectors_le_wrapper (chunks : List Bytes) :
    (Fmt.all.filterMap (fun f => (Insp.init f).map (fun s0 => (runChunks s0 chunks).1.retained))).sum
      ≤ (Fmt.all.map limit).sum :=
  lemma_all_inspectors_le _ (fun f s0 h0 => retained_le_bound_wrapper f s0 h0 chunks) _

/-- … which is the constant 6 MiB (over the generated constants), and every format is present in that sum -/
theorem all_limits_sum : (Fmt.all.map limit).sum = 6 * 1024 * 1024 ∧
    (Fmt.all.filterMap (fun f => (Insp.init f).map (fun _ => 1))).sum = 10 := by decide

/-- the bound does not depend on the stream: it is the same constant for an empty feed and for any other -/
theorem retained_bound_is_constant (f : Fmt) (s0 : Insp) (h0 : Insp.init f = some s0)
    (chunks chunks' : List Bytes) :
    (feedAll s0 chunks).retained ≤ limit f ∧ (feedAll s0 chunks').retained ≤ limit f ∧
    (feedAll s0 (chunks ++ chunks')).retained ≤ limit f :=
  ⟨retained_le_bound f s0 h0 chunks, retained_le_bound f s0 h0 chunks', retained_le_bound f s0 h0 _⟩

/-! the caps in numbers: whatever a VMDK header announces, the descriptor region is clamped below 1 MiB -/
example : cap .vmdk "descriptor" = 1048575 ∧ cap .vhdx "vds" = 65536 ∧ limit .vmdk = 1572864 := by decide

example : ∀ f ∈ Fmt.all, (Insp.init f).isSome = true := by decide

end Oslo.Insp
