/-
C09 — exception-handling helpers never lose, replace or invent an exception.

Property theorems over the model `OsloModel/Exc.lean`.  Every theorem quantifies over all
handler bodies `body : Body` (the ones that need it by induction on the program), all contexts,
all interpreter states (heap of exception objects with their classes and tracebacks, handled
exception stack, log, path) and all exception ids.  The equations of the helpers and the general
facts the theorems are instances of are in `Lemmas/C09.lean`; helper lemmas here are `lemma_…`.
-/
import OsloProofs.Lemmas.C09
namespace Oslo.Exc

theorem lemma_capture_nocheck (c : Sre) (s : St) : capture false c s = (s, enter c s, .ok) := by
  unfold enter capture; cases s.active <;> simp

theorem lemma_enter_reraise (fl : Bool) (s : St) : (enter (Sre.init fl) s).reraise = fl := by
  rw [enter_eq]; rfl

/-- **The handled-exception stack is restored** by every body, however it ends
    (so `sys.exc_info()` after any handler program is what it was before). -/
theorem exec_excInfo_restored (b : Body) (c : Sre) (s : St) : (exec b c s).st.excInfo = s.excInfo :=
  (exec_evolves b c s).1

/-- **A context keeps its logger**: no program changes which logger object a context reports to. -/
theorem exec_logger_kept (b : Body) (c : Sre) (s : St) : (exec b c s).ctx.sink = c.sink :=
  (exec_ctx b c s).1

/-- **Saved-exception invariant.**  No body operation other than a direct `capture` /
    `force_reraise` on this context changes what the context has saved (type, value, traceback) —
    whatever the body raises, catches, nests, filters or removes, and however it ends. -/
theorem sre_saved_invariant (b : Body) (c : Sre) (s : St) (h : b.direct = false) :
    (exec b c s).ctx.type_ = c.type_ ∧ (exec b c s).ctx.value = c.value ∧
    (exec b c s).ctx.tb = c.tb :=
  (exec_ctx b c s).2 h

/-- a nested context never touches the enclosing one -/
theorem sre_nest_leaves_outer (fl : Bool) (body : Body) (c : Sre) (s : St) :
    (exec (.nest fl body) c s).ctx = c :=
  congrArg Res.ctx (exec_nest fl body c s)

/-- **`__exit__` re-raises what is saved.**  Normal exit with the flag on and a saved value `v`:
    `v` itself comes out, its traceback is the *saved* traceback under the three frames
    force_reraise / __exit__ / the frame of the `with`; nothing is logged, no object is created,
    no other traceback changes. -/
theorem sre_exit_reraises_saved (f : Frame) (c : Sre) (s : St) (v : ExcId)
    (hfl : c.reraise = true) (hv : c.value = some v) :
    (exitSre f c s .ok).2 = .raised v ∧
    (exitSre f c s .ok).1.heap.tb v = [f, .sreExit, .sreForce] ++ c.tb ∧
    (∀ i, i ≠ v → (exitSre f c s .ok).1.heap.tb i = s.heap.tb i) ∧
    (exitSre f c s .ok).1.log = s.log ∧ (exitSre f c s .ok).1.path = s.path ∧
    (exitSre f c s .ok).1.heap.next = s.heap.next ∧
    (exitSre f c s .ok).1.heap.cls = s.heap.cls := by
  rw [exitSre_saved f c s v hfl hv]
  refine ⟨rfl, ?_, fun i hi => ?_, rfl, rfl, rfl, rfl⟩
  · simp only [Heap.setTb, if_true, List.cons_append, List.nil_append]
  · simp only [Heap.setTb, if_neg hi]

/-- **sre_reraises_same.**  For every body that completes with the flag on at exit and contains no
    direct `force_reraise`/`capture`: the `with save_and_reraise_exception()` statement raises the
    exception `e₀` that was being handled on entry — the same object — and its traceback is the one it
    had on entry (its own) under the frames force_reraise, `__exit__`, scenario; this holds even if the
    body re-raised `e₀` itself and so changed its traceback in between.  Nothing is logged, no object is
    created, the enclosing context is untouched. -/
theorem sre_reraises_same (fl : Bool) (body : Body) (c : Sre) (s : St) (e₀ : ExcId)
    (hact : s.active = some e₀) (hd : body.direct = false)
    (hok : (exec body (enter (Sre.init fl) s) s).out = .ok)
    (hfl : (exec body (enter (Sre.init fl) s) s).ctx.reraise = true) :
    (exec (.nest fl body) c s).out = .raised e₀ ∧
    (exec (.nest fl body) c s).st.heap.tb e₀ = [.scen, .sreExit, .sreForce] ++ s.heap.tb e₀ ∧
    (∀ i, i ≠ e₀ → (exec (.nest fl body) c s).st.heap.tb i =
        (exec body (enter (Sre.init fl) s) s).st.heap.tb i) ∧
    (exec (.nest fl body) c s).st.log = (exec body (enter (Sre.init fl) s) s).st.log ∧
    (exec (.nest fl body) c s).st.path = (exec body (enter (Sre.init fl) s) s).st.path ∧
    (exec (.nest fl body) c s).st.heap.next = (exec body (enter (Sre.init fl) s) s).st.heap.next ∧
    (exec (.nest fl body) c s).ctx = c := by
  have he := exec_entered (Sre.init fl) body s e₀ hact hd
  simp [exec, hok, exitSre_saved _ _ _ e₀ hfl he.1, he.2.1, Heap.setTb]
  exact fun i hi h => absurd h hi

/-- **sre_flag_off_silent.**  For every body that completes with the flag off at exit, the `with`
    statement raises nothing, logs nothing and changes nothing (no hypothesis on what the body did). -/
theorem sre_flag_off_silent (fl : Bool) (body : Body) (c : Sre) (s : St)
    (hok : (exec body (enter (Sre.init fl) s) s).out = .ok)
    (hfl : (exec body (enter (Sre.init fl) s) s).ctx.reraise = false) :
    exec (.nest fl body) c s = ⟨(exec body (enter (Sre.init fl) s) s).st, c, .ok⟩ := by
  simp [exec, exitSre, hok, hfl]

/-- **sre_body_raise_propagates.**  For every body that raises `e'`: `e'` comes out of the `with`
    statement, the heap (every traceback, `e'`'s included) is exactly as the body left it, and the
    saved exception is logged once if the flag is on at that moment and not at all otherwise. -/
theorem sre_body_raise_propagates (fl : Bool) (body : Body) (c : Sre) (s : St) (e' : ExcId)
    (hr : (exec body (enter (Sre.init fl) s) s).out = .raised e') :
    (exec (.nest fl body) c s).out = .raised e' ∧
    (exec (.nest fl body) c s).st.heap = (exec body (enter (Sre.init fl) s) s).st.heap ∧
    (exec (.nest fl body) c s).st.path = (exec body (enter (Sre.init fl) s) s).st.path ∧
    (exec (.nest fl body) c s).ctx = c ∧
    (exec (.nest fl body) c s).st.log = (exec body (enter (Sre.init fl) s) s).st.log ++
      (if (exec body (enter (Sre.init fl) s) s).ctx.reraise
       then [⟨(exec body (enter (Sre.init fl) s) s).ctx.value, (exec body (enter (Sre.init fl) s) s).ctx.tb,
              (exec body (enter (Sre.init fl) s) s).ctx.sink⟩]
       else []) := by
  simp only [exec, exitSre, hr]
  cases (exec body (enter (Sre.init fl) s) s).ctx.reraise <;> simp

/-- … and, without direct `force_reraise`/`capture` in the body, what is logged is the original:
    the exception handled on entry with the traceback it had then. -/
theorem sre_body_raise_logs_original (fl : Bool) (body : Body) (c : Sre) (s : St) (e₀ e' : ExcId)
    (hact : s.active = some e₀) (hd : body.direct = false)
    (hr : (exec body (enter (Sre.init fl) s) s).out = .raised e') :
    (exec (.nest fl body) c s).st.log = (exec body (enter (Sre.init fl) s) s).st.log ++
      (if (exec body (enter (Sre.init fl) s) s).ctx.reraise then [⟨some e₀, s.heap.tb e₀, .scenario⟩] else []) := by
  have he := exec_entered (Sre.init fl) body s e₀ hact hd
  simp only [exec, hr, exitSre, he.1, he.2.1, he.2.2]
  split <;> simp [Sre.init]

/-- **sre_capture_retargets.**  `capture()` while `a` is being handled makes the context save `a`
    with `a`'s traceback of that moment (whatever it had saved before) … -/
theorem sre_capture_retargets (c : Sre) (s : St) (a : ExcId) (hact : s.active = some a) :
    exec .capture c s =
      ⟨s, { c with type_ := some (s.heap.cls a), value := some a, tb := s.heap.tb a }, .ok⟩ := by
  simp [exec, capture, hact]

/-- … so that a later normal exit with the flag on re-raises `a` with that traceback. -/
theorem sre_capture_then_exit (c : Sre) (s s' : St) (a : ExcId) (f : Frame)
    (hact : s.active = some a) (hfl : c.reraise = true) :
    (exitSre f (exec .capture c s).ctx s' .ok).2 = .raised a ∧
    (exitSre f (exec .capture c s).ctx s' .ok).1.heap.tb a = [f, .sreExit, .sreForce] ++ s.heap.tb a := by
  simp [sre_capture_retargets c s a hact, Heap.setTb, exitSre_saved f
    { c with type_ := some (s.heap.cls a), value := some a, tb := s.heap.tb a } s' a hfl rfl]

/-- `capture()` with nothing being handled raises a new RuntimeError and saves nothing -/
theorem sre_capture_nothing_active (c : Sre) (s : St) (hact : s.active = none) :
    (exec .capture c s).out = .raised s.heap.next ∧ (exec .capture c s).ctx = c ∧
    (exec .capture c s).st.heap.cls s.heap.next = .runtimeError ∧
    (exec .capture c s).st.heap.tb s.heap.next = [.scen, .sreCapture] := by
  simp [exec, capture, hact, St.raiseFresh, Heap.alloc, St.through, Heap.through, Heap.setTb]

/-- the first `force_reraise()` after a capture raises the saved exception with the saved traceback -/
theorem sre_force_raises_saved (caught : Bool) (c : Sre) (s : St) (v : ExcId) (hv : c.value = some v) :
    (exec (.forceReraise false) c s).out = .raised v ∧
    (exec (.forceReraise caught) c s).st.heap.tb v = [.scen, .sreForce] ++ c.tb ∧
    (exec (.forceReraise caught) c s).ctx.value = none ∧
    (exec (.forceReraise caught) c s).ctx.type_ = c.type_ := by
  simp [exec, force_saved c s v hv, St.through, Heap.through, Heap.setTb]

def n1State (needsArgs : Bool) : St :=
  ⟨⟨fun _ => .user 0 needsArgs true, fun _ => [], fun _ => none, fun _ => false, 1⟩, [], [], .file⟩

def n1Body : Body := .handle 0 (.nest true (.forceReraise true))

/-- **Finding N1, proved.**  `try: raise E0 / except: with save_and_reraise_exception() as c:
    try: c.force_reraise() / except: pass` — the body completes with the flag on, and what comes out is
    *not* `E0` (id 0) but a new object (id 1) of `E0`'s class with no traceback of `E0`'s; when the class
    needs constructor arguments it is a new TypeError. -/
theorem sre_force_then_exit_invents :
    (run true n1Body (n1State false)).out = .raised 1 ∧
    (run true n1Body (n1State false)).st.heap.cls 1 = .user 0 false true ∧
    (run true n1Body (n1State false)).st.heap.tb 1 = [.scen, .sreExit, .sreForce] ∧
    (run true n1Body (n1State false)).st.heap.tb 0 = [.scen, .sreForce, .scen] ∧
    (run true n1Body (n1State true)).out = .raised 1 ∧
    (run true n1Body (n1State true)).st.heap.cls 1 = .typeError ∧
    n1Body.direct = false ∧ (Body.forceReraise true).forceCaught false = true := by
  decide

/-- **sre_exit_off_keeps_saved.**  `__exit__` leaves the four fields alone when the body raised and
    when the body completed with the flag off (and in the latter case does nothing else either): the
    saved type, value and traceback are still there for a later `ctxt.force_reraise()`. -/
theorem sre_exit_off_keeps_saved (f : Frame) (c : Sre) (s : St) :
    (∀ e, exitCtx c s (.raised e) = c) ∧
    (c.reraise = false → exitCtx c s .ok = c ∧ exitSre f c s .ok = (s, .ok)) := by
  refine ⟨fun e => rfl, fun h => ?_⟩
  simp [exitCtx, exitSre, h]

/-- a normal exit with the flag on (it re-raised the saved value) leaves the value and traceback
    cleared and the type in place — the state from which finding N1 arises -/
theorem sre_exit_on_clears_value (c : Sre) (s : St) (v : ExcId)
    (hfl : c.reraise = true) (hv : c.value = some v) :
    (exitCtx c s .ok).value = none ∧ (exitCtx c s .ok).tb = [] ∧ (exitCtx c s .ok).type_ = c.type_ := by
  simp [exitCtx, hfl, force_saved c s v hv]

/-- for every body that completes with the flag off, the operations written after the `with` block
    run on exactly the context (and state) the body left -/
theorem sre_late_ops_see_saved (fl : Bool) (body late : Body) (c : Sre) (s : St)
    (hok : (exec body (enter (Sre.init fl) s) s).out = .ok)
    (hfl : (exec body (enter (Sre.init fl) s) s).ctx.reraise = false) :
    exec (.nestThen fl body late) c s =
      ⟨(exec late (exec body (enter (Sre.init fl) s) s).ctx (exec body (enter (Sre.init fl) s) s).st).st, c,
       (exec late (exec body (enter (Sre.init fl) s) s).ctx (exec body (enter (Sre.init fl) s) s).st).out⟩ := by
  simp [exec, exitSre, exitCtx, hok, hfl]

/-- **sre_late_force_reraises_saved.**  For every body without direct `force_reraise`/`capture` that
    completes with the flag off: a `ctxt.force_reraise()` written after the `with` block (still inside
    the `except` clause) raises the exception that was handled on entry — the same object — with the
    traceback it had when it was saved, under the frames force_reraise and scenario. -/
theorem sre_late_force_reraises_saved (fl : Bool) (body : Body) (c : Sre) (s : St) (e₀ : ExcId)
    (hact : s.active = some e₀) (hd : body.direct = false)
    (hok : (exec body (enter (Sre.init fl) s) s).out = .ok)
    (hfl : (exec body (enter (Sre.init fl) s) s).ctx.reraise = false) :
    (exec (.nestThen fl body (.forceReraise false)) c s).out = .raised e₀ ∧
    (exec (.nestThen fl body (.forceReraise false)) c s).st.heap.tb e₀ = [.scen, .sreForce] ++ s.heap.tb e₀ ∧
    (exec (.nestThen fl body (.forceReraise false)) c s).ctx = c := by
  have he := exec_entered (Sre.init fl) body s e₀ hact hd
  rw [sre_late_ops_see_saved fl body _ c s hok hfl]
  simp [exec, force_saved _ _ e₀ he.1, he.2.1, St.through, Heap.through, Heap.setTb]

/-- … and the same after the whole `try` statement, when nothing is being handled any more: the
    traceback is the one `e₀` had when it was caught. -/
theorem sre_late_force_after_except (fl : Bool) (body : Body) (c : Sre) (s : St) (e₀ : ExcId)
    (hd : body.direct = false)
    (hok : (exec body (enter (Sre.init fl) { s.through e₀ .scen with excInfo := e₀ :: s.excInfo })
        { s.through e₀ .scen with excInfo := e₀ :: s.excInfo }).out = .ok)
    (hfl : (exec body (enter (Sre.init fl) { s.through e₀ .scen with excInfo := e₀ :: s.excInfo })
        { s.through e₀ .scen with excInfo := e₀ :: s.excInfo }).ctx.reraise = false) :
    (exec (.handleNestThen e₀ fl body (.forceReraise false)) c s).out = .raised e₀ ∧
    (exec (.handleNestThen e₀ fl body (.forceReraise false)) c s).st.heap.tb e₀
      = [.scen, .sreForce, .scen] ++ s.heap.tb e₀ ∧
    (exec (.handleNestThen e₀ fl body (.forceReraise false)) c s).st.excInfo = s.excInfo := by
  generalize hsh : ({ s.through e₀ .scen with excInfo := e₀ :: s.excInfo } : St) = sh at hok hfl
  have he := exec_entered (Sre.init fl) body sh e₀ (by subst hsh; rfl) hd
  have hs1 : (s.through e₀ .scen).excInfo = s.excInfo := rfl
  simp only [exec, hs1, hsh, exitSre, exitCtx, hok, hfl, Bool.false_eq_true, if_false,
    force_saved _ _ e₀ he.1, he.2.1]
  subst hsh
  simp [St.through, Heap.through, Heap.setTb]

/-- **`__enter__` always captures.**  Entering a context object — new, or used before and left in any
    state whatever (a saved first failure, a cleared value with the type still set, a switched-off flag)
    — saves the exception being handled *now*, with its class and its traceback of now; only the `reraise`
    attribute is kept from before. -/
theorem sre_enter_recaptures (c : Sre) (s : St) (a : ExcId) (h : s.active = some a) :
    (enter c s).value = some a ∧ (enter c s).tb = s.heap.tb a ∧ (enter c s).type_ = some (s.heap.cls a) ∧
    (enter c s).reraise = c.reraise := by
  simp [enter_active c s a h]

/-- **sre_reuse_reraises_current.**  `with ctxt: body` on a context object in *any* previous state, for
    every body without direct operations that completes with the flag on: the exception handled on THIS
    entry comes out — the same object, with its own traceback under force_reraise / `__exit__` / scenario
    — never anything an earlier use had saved.  Nothing is logged, no object is created. -/
theorem sre_reuse_reraises_current (body : Body) (c : Sre) (s : St) (e₀ : ExcId)
    (hact : s.active = some e₀) (hd : body.direct = false)
    (hok : (exec body (enter c s) s).out = .ok)
    (hfl : (exec body (enter c s) s).ctx.reraise = true) :
    (exec (.enterCur body) c s).out = .raised e₀ ∧
    (exec (.enterCur body) c s).st.heap.tb e₀ = [.scen, .sreExit, .sreForce] ++ s.heap.tb e₀ ∧
    (exec (.enterCur body) c s).st.log = (exec body (enter c s) s).st.log ∧
    (exec (.enterCur body) c s).st.heap.next = (exec body (enter c s) s).st.heap.next := by
  have he := exec_entered c body s e₀ hact hd
  simp [exec, hok, exitSre_saved _ _ _ e₀ hfl he.1, he.2.1, Heap.setTb]

/-- a reused context whose flag is off when the body completes raises nothing and changes nothing, and
    keeps what it captured on this entry -/
theorem sre_reuse_flag_off_silent (body : Body) (c : Sre) (s : St)
    (hok : (exec body (enter c s) s).out = .ok)
    (hfl : (exec body (enter c s) s).ctx.reraise = false) :
    exec (.enterCur body) c s = ⟨(exec body (enter c s) s).st, (exec body (enter c s) s).ctx, .ok⟩ := by
  simp [exec, exitSre, exitCtx, hok, hfl]

/-- a reused context whose body raises logs the exception handled on THIS entry (iff the flag is on) -/
theorem sre_reuse_body_raise_logs_current (body : Body) (c : Sre) (s : St) (e₀ e' : ExcId)
    (hact : s.active = some e₀) (hd : body.direct = false)
    (hr : (exec body (enter c s) s).out = .raised e') :
    (exec (.enterCur body) c s).out = .raised e' ∧
    (exec (.enterCur body) c s).st.log = (exec body (enter c s) s).st.log ++
      (if (exec body (enter c s) s).ctx.reraise then [⟨some e₀, s.heap.tb e₀, c.sink⟩] else []) := by
  have he := exec_entered c body s e₀ hact hd
  simp only [exec, hr, exitSre, he.1, he.2.1, he.2.2]
  split <;> simp

/-- a context is *sound* when a cleared value comes with a cleared type (true of a new context, after
    `__enter__` and after `capture`; false after `force_reraise`) -/
def Sre.sound (c : Sre) : Prop := c.value = none → c.type_ = none

/-- every nested context of the program is outside the class of finding N1 -/
def Body.n1Free : Body → Bool
  | .nest _ b => !(b.forceCaught false) && b.n1Free
  | .seq a b => a.n1Free && b.n1Free
  | .handle _ h => h.n1Free
  | .filterCtx _ _ b => b.n1Free
  | .rpoe _ b => b.n1Free
  | .nestThen _ b l => !(b.forceCaught false) && b.n1Free && !(l.forceCaught false) && l.n1Free
  | .handleNestThen _ _ b l => !(b.forceCaught false) && b.n1Free && !(l.forceCaught false) && l.n1Free
  | .enterCur b => b.n1Free
  | .swallow b => b.n1Free
  | _ => true

/-- `h'` has every object of `h` with its class, and the objects created in between are only the
    documented new exceptions: RuntimeError (nothing captured), the OSError of a failing remove,
    the exception made by raise_with_cause — never an instance of a user class, never a TypeError -/
def Heap.ext (h h' : Heap) : Prop :=
  h.next ≤ h'.next ∧ (∀ i : Nat, i < h.next → h'.cls i = h.cls i) ∧
  (∀ i : Nat, h.next ≤ i → i < h'.next →
      h'.cls i = .runtimeError ∨ h'.cls i = .osError ∨ h'.cls i = .caused)

/-- every object of `h` is still there in `h'` with its class, its `__cause__` and its
    `__suppress_context__` -/
def Heap.kept (h h' : Heap) : Prop :=
  h.next ≤ h'.next ∧
  ∀ i : Nat, i < h.next → h'.cls i = h.cls i ∧ h'.cause i = h.cause i ∧ h'.suppress i = h.suppress i

theorem lemma_kept_of_grows {P : Cls → Prop} {h h' : Heap} (g : Heap.grows P h h') : Heap.kept h h' :=
  ⟨g.1, g.2.1⟩

theorem lemma_ext_of_grows {h h' : Heap} (g : Heap.grows (fun _ => False) h h') : Heap.ext h h' :=
  ⟨g.1, fun i hi => (g.2.1 i hi).1, fun i lo hi => (g.2.2 i lo hi).resolve_right id⟩

theorem lemma_ext_ite (p : Prop) [Decidable p] (h a b : Heap) (ha : Heap.ext h a) (hb : Heap.ext h b) :
    Heap.ext h (if p then a else b) := by
  split <;> assumption

/-- `force_reraise()` on a sound context creates at most the RuntimeError "nothing captured" -/
theorem lemma_sound_forceIn (c : Sre) (hc : c.sound) : c.forceIn fun _ => False :=
  fun hv cl ht => by rw [hc hv] at ht; cases ht

theorem lemma_enter_sound (c : Sre) (s : St) : (enter c s).sound := by
  rw [enter_eq]; exact fun h => congrArg (Option.map s.heap.cls) h

theorem lemma_capture_sound (check : Bool) (c : Sre) (s : St) (hc : c.sound) :
    (capture check c s).2.1.sound := by
  unfold capture
  split
  · split
    · exact hc
    · exact fun _ => rfl
  · exact nofun

theorem lemma_exit_evolves_sound (f : Frame) (c : Sre) (s : St) (o : Compl) (hc : o = .ok → c.sound) :
    St.evolves (fun _ => False) s (exitSre f c s o).1 ∧
    ((exitSre f c s o).2 = .ok → (exitCtx c s o).sound) := by
  refine ⟨exitSre_evolves f c s o fun ho => lemma_sound_forceIn c (hc ho), fun h => ?_⟩
  cases o with
  | raised e => cases h
  | ok =>
    cases hr : c.reraise with
    | true => exact absurd h (exitSre_ne_ok f c s .ok hr)
    | false => simp only [exitCtx, hr, Bool.false_eq_true, if_false]; exact hc rfl

/-- The invariant behind `no_invention_outside_N1`.  A direct `force_reraise()` leaves the context
    unsound (value cleared, type kept), so soundness of the context `ctxt` names cannot hold after every
    part of a program.  It is needed, and claimed, only where something can still run on that context:
    when this part ended normally, or when `uf` says that an exception out of it is caught further out
    in the same body (under an `exception_filter` or a `try`) — and there `forceCaught uf` rules the
    `force_reraise()` out. -/
theorem lemma_no_invention (b : Body) : ∀ (uf : Bool) (c : Sre) (s : St),
    b.forceCaught uf = false → b.n1Free = true → c.sound →
    St.evolves (fun _ => False) s (exec b c s).st ∧
    ((uf = true ∨ (exec b c s).out = .ok) → (exec b c s).ctx.sound) := by
  induction b using Body.induction_with with
  | nop | setReraise => exact fun _ _ _ _ _ hc => ⟨.refl _, fun _ => hc⟩
  | raiseCatch | raiseNew => exact fun _ _ _ _ _ hc => ⟨(St.evolves.refl _).through _ _, fun _ => hc⟩
  | filterCall form p e => exact fun _ _ _ _ _ hc => ⟨filterCall_evolves _ _ _, fun _ => hc⟩
  | rwc x =>
    exact fun _ _ s _ _ hc =>
      ⟨(raiseFresh_evolves s .caused _ .rwc (.inl (.inr (.inr rfl)))).through _ _, fun _ => hc⟩
  | forceReraise caught =>
    intro uf c s hf _ hc
    simp only [Body.forceCaught, Bool.or_eq_false_iff] at hf
    obtain ⟨rfl, rfl⟩ := hf
    exact ⟨(force_evolves c s (lemma_sound_forceIn c hc)).through _ _, fun h => by simp [exec] at h⟩
  | capture =>
    intro uf c s _ _ hc
    have h := capture_evolves (P := fun _ => False) true c s
    have hs := lemma_capture_sound true c s hc
    simp only [exec]
    split
    · next heq => rw [heq] at h hs; exact ⟨h, fun _ => hs⟩
    · next heq => rw [heq] at h hs; exact ⟨h.through _ _, fun _ => hs⟩
  | seq a b iha ihb =>
    intro uf c s hf hn hc
    simp only [Body.forceCaught, Bool.or_eq_false_iff] at hf
    simp only [Body.n1Free, Bool.and_eq_true] at hn
    have ha := iha uf c s hf.1 hn.1 hc
    simp only [exec]
    split
    · next ho =>
      have hb := ihb uf (exec a c s).ctx (exec a c s).st hf.2 hn.2 (ha.2 (.inr ho))
      exact ⟨ha.1.trans hb.1, hb.2⟩
    · next ho => exact ⟨ha.1, fun h => ha.2 (h.imp_right fun h => by rw [ho] at h; cases h)⟩
  | handle e h ih =>
    intro uf c s hf hn hc
    have := ih uf c { s.through e .scen with excInfo := e :: s.excInfo } hf hn hc
    exact ⟨⟨rfl, ((St.evolves.refl s).through e .scen).2.trans this.1.2⟩, this.2⟩
  | filterCtx form p body ih =>
    intro uf c s hf hn hc
    have := ih true c s hf hn hc
    exact ⟨this.1.trans (filterExit_evolves _ _ _), fun _ => this.2 (.inl rfl)⟩
  | rpoe rm body ih =>
    intro uf c s hf hn hc
    have h := ih uf c s hf hn hc
    simp only [exec]
    split
    · next ho => exact ⟨h.1, fun _ => h.2 (.inr ho)⟩
    · next e _ =>
      have hr := rpoeExit_evolves_ne_ok (P := fun _ => False) rm e (exec body c s).st
      exact ⟨h.1.trans hr.1, fun hh => h.2 (hh.imp_right fun hh => absurd hh hr.2)⟩
  | swallow body ih =>
    intro uf c s hf hn hc
    have h := ih true c s hf hn hc
    simp only [exec]
    split <;> exact ⟨h.1, fun _ => h.2 (.inl rfl)⟩
  | enterCur body ih =>
    intro uf c s hf hn hc
    simp only [Body.forceCaught, Bool.or_eq_false_iff] at hf
    obtain ⟨rfl, hf⟩ := hf
    have h := ih false (enter c s) s hf hn (lemma_enter_sound c s)
    have hx := lemma_exit_evolves_sound .scen _ (exec body (enter c s) s).st (exec body (enter c s) s).out
      fun ho => h.2 (.inr ho)
    exact ⟨h.1.trans hx.1, fun hh => hx.2 (hh.resolve_left nofun)⟩
  | nest fl body ih =>
    intro uf c s _ hn hc
    simp only [Body.n1Free, Bool.and_eq_true, Bool.not_eq_true'] at hn
    exact ⟨(ih false (Sre.init fl) s (by simp [Body.forceCaught, hn.1]) hn.2 fun _ => rfl).1, fun _ => hc⟩
  | nestThen fl body late ihb ihl =>
    intro uf c s _ hn hc
    simp only [Body.n1Free, Bool.and_eq_true, Bool.not_eq_true'] at hn
    have h := ihb false (Sre.init fl) s (by simp [Body.forceCaught, hn.1.1.1]) hn.1.1.2 fun _ => rfl
    rw [exec_nestThen, Res.thenLate]
    split
    · next ho => exact ⟨h.1.trans (ihl false _ _ hn.1.2 hn.2 (h.2 (.inr ho))).1, fun _ => hc⟩
    · exact ⟨h.1, fun _ => hc⟩
  | handleNestThen e fl body late ihb ihl =>
    intro uf c s _ hn hc
    simp only [Body.n1Free, Bool.and_eq_true, Bool.not_eq_true'] at hn
    have h := ihb false (Sre.init fl) s (by simp [Body.forceCaught, hn.1.1.1]) hn.1.1.2 fun _ => rfl
    rw [exec_handleNestThen, Res.thenLate]
    split
    · next ho => exact ⟨h.1.trans (ihl false _ _ hn.1.2 hn.2 (h.2 (.inr ho))).1, fun _ => hc⟩
    · exact ⟨h.1, fun _ => hc⟩

/-- **Nothing is invented outside the class of N1.**  For every program in which no
    `save_and_reraise_exception` body (at any nesting depth) contains a direct `force_reraise()` whose
    exception cannot leave that body, run from any state with a sound context: every exception object
    that exists afterwards either existed before (with the same class) or is one of the documented new
    exceptions (RuntimeError "nothing captured", the OSError of a failing remove, the exception made by
    raise_with_cause).  No instance of a caught exception's class and no TypeError is ever created —
    which is exactly what `sre_force_then_exit_invents` exhibits inside the class. -/
theorem no_invention_outside_N1 (b : Body) (c : Sre) (s : St)
    (h1 : b.forceCaught false = false) (h2 : b.n1Free = true) (hc : c.sound) :
    Heap.ext s.heap (exec b c s).st.heap :=
  lemma_ext_of_grows (lemma_no_invention b false c s h1 h2 hc).1.2

/-- **Re-raising preserves the chain** (and everything else never touches it): for every program, every
    context and every state, each exception object that existed before is still there afterwards with the
    same class, the same `__cause__` and the same `__suppress_context__` — whether it was re-raised by
    `__exit__`, by a direct or late `force_reraise()`, by `remove_path_on_error`, by `exception_filter`, or
    not at all.  (Only a brand-new exception made by `raise_with_cause` gets a cause.) -/
theorem exec_preserves_chain (b : Body) (c : Sre) (s : St) : Heap.kept s.heap (exec b c s).st.heap :=
  lemma_kept_of_grows (exec_evolves b c s).2

/-- in particular the original re-raised by `with save_and_reraise_exception()` (any body, any way the
    statement ends) still has its `__cause__` and `__suppress_context__` -/
theorem sre_reraise_preserves_chain (fl : Bool) (body : Body) (c : Sre) (s : St) (e₀ : ExcId)
    (he : e₀ < s.heap.next) :
    (exec (.nest fl body) c s).st.heap.cause e₀ = s.heap.cause e₀ ∧
    (exec (.nest fl body) c s).st.heap.suppress e₀ = s.heap.suppress e₀ ∧
    (exec (.nest fl body) c s).st.heap.cls e₀ = s.heap.cls e₀ :=
  let h := (exec_preserves_chain (.nest fl body) c s).2 e₀ he
  ⟨h.2.1, h.2.2, h.1⟩

/-- **`__get__` binds what it is looked up through.**  The filter obtained through instance `obj` of
    class `owner` calls an instance method with that very `obj`, a class method with that `owner`, a static
    method as it is — it does not depend on any other instance or on earlier lookups. -/
theorem filter_get_binds {σ κ : Type} (obj : σ) (owner : κ) (e : ExcId)
    (fm : σ → ExcId → PredRes) (fc : κ → ExcId → PredRes) (fs : ExcId → PredRes) :
    (filterGet (.method fm : Wrapped σ κ) obj owner).shouldIgnore e = fm obj e ∧
    (filterGet (.classMethod fc : Wrapped σ κ) obj owner).shouldIgnore e = fc owner e ∧
    (filterGet (.staticMethod fs : Wrapped σ κ) obj owner).shouldIgnore e = fs e :=
  ⟨rfl, rfl, rfl⟩

/-- every way of making and reaching the filter (function, instance method, classmethod / staticmethod
    through the class or an instance) behaves like the function-made filter with the table that the
    instance / class / closure holds -/
theorem filter_form_irrelevant (form : FilterForm) (p : Pred) (body : Body) (e : ExcId) (c : Sre) (s : St) :
    exec (.filterCtx form p body) c s = exec (.filterCtx .func p body) c s ∧
    exec (.filterCall form p e) c s = exec (.filterCall .func p e) c s := by
  simp [exec, mkFilter_eq]

/-- two instances of one class used interleaved (`with a.filt: with b.filt: raise e`): the inner
    statement is decided by `b`'s own table and the outer one by `a`'s -/
theorem filter_instances_independent (pa pb : Pred) (e : ExcId) (c : Sre) (s : St) :
    (pb.eval e = .accept →
      (exec (.filterCtx .method pa (.filterCtx .method pb (.raiseNew e))) c s).out = .ok) ∧
    (pb.eval e = .reject → pa.eval e = .accept →
      (exec (.filterCtx .method pa (.filterCtx .method pb (.raiseNew e))) c s).out = .ok) ∧
    (pb.eval e = .reject → pa.eval e = .reject →
      (exec (.filterCtx .method pa (.filterCtx .method pb (.raiseNew e))) c s).out = .raised e) := by
  refine ⟨fun h => ?_, fun h1 h2 => ?_, fun h1 h2 => ?_⟩ <;>
    simp [exec, filterExit, callPred, mkFilter_eq, *]

/-- **filter_exact** (context-manager form, function-made and bound-method filters alike): for every
    body, the `with filt:` statement ends normally iff the body did or the predicate accepts what the
    body raised; a rejected exception comes out as the same object with the state — its traceback
    included — exactly as the body left it; an exception raised by the predicate replaces it. -/
theorem filter_exact (bound : FilterForm) (p : Pred) (body : Body) (c : Sre) (s : St) :
    ((exec body c s).out = .ok → exec (.filterCtx bound p body) c s = exec body c s) ∧
    (∀ e, (exec body c s).out = .raised e → p.eval e = .accept →
        exec (.filterCtx bound p body) c s = ⟨(exec body c s).st, (exec body c s).ctx, .ok⟩) ∧
    (∀ e, (exec body c s).out = .raised e → p.eval e = .reject →
        exec (.filterCtx bound p body) c s = exec body c s) ∧
    (∀ e x, (exec body c s).out = .raised e → p.eval e = .raises x →
        (exec (.filterCtx bound p body) c s).out = .raised x ∧
        (exec (.filterCtx bound p body) c s).st.heap.tb x =
          [.scen, .filtExit, .pred] ++ (exec body c s).st.heap.tb x) := by
  refine ⟨?_, ?_, ?_, ?_⟩
  · intro h; simp only [exec, filterExit, h]
    rw [← h]
  · intro e h hp; simp [exec, filterExit, callPred, mkFilter_eq, h, hp]
  · intro e h hp; simp only [exec, filterExit, callPred, mkFilter_eq, h, hp]
    rw [← h]
  · intro e x h hp
    simp [exec, filterExit, callPred, mkFilter_eq, h, hp, St.through, Heap.through, Heap.setTb]

/-- **The predicate's answer counts by its truth value**, whatever object it is (`True`, `1`, a match
    object, a non-empty tuple … accept; `False`, `0`, `None`, `''`, `[]` … reject). -/
theorem filter_accepts_iff_truthy (p : Pred) (e : ExcId) (h : p.raises.lookup e = none) :
    (p.eval e = .accept ↔ (p.value e).truthy = true) ∧ (p.eval e = .reject ↔ (p.value e).truthy = false) := by
  simp only [Pred.eval, h]
  cases (p.value e).truthy <;> simp

/-- **filter_exact** as an equivalence: the `with filt:` statement ends normally exactly when the body
    did or the predicate accepts what the body raised. -/
theorem filter_suppresses_iff (bound : FilterForm) (p : Pred) (body : Body) (c : Sre) (s : St) :
    (exec (.filterCtx bound p body) c s).out = .ok ↔
      ((exec body c s).out = .ok ∨ ∃ e, (exec body c s).out = .raised e ∧ p.eval e = .accept) := by
  simp only [exec, filterExit, callPred, mkFilter_eq]
  cases h : (exec body c s).out with
  | ok => simp
  | raised e => cases hp : p.eval e <;> simp [hp]

/-- **Both entry points of one filter agree**: `with filt: raise e` ends normally exactly when
    `filt(e)` (called while `e` is being handled) returns, namely when the predicate's answer for `e` is
    true — for every way of making the filter and every kind of answer object. -/
theorem filter_ctx_call_agree (form : FilterForm) (p : Pred) (e : ExcId) (c : Sre) (s : St) :
    ((exec (.filterCtx form p (.raiseNew e)) c s).out = .ok ↔ p.eval e = .accept) ∧
    ((exec (.handle e (.filterCall form p e)) c s).out = .ok ↔ p.eval e = .accept) := by
  constructor
  · rw [filter_suppresses_iff]
    simp [exec]
  · simp only [exec, filterCall, callPred, mkFilter_eq]
    cases p.eval e <;> simp [St.active, St.through]

/-- **filter_exact**, direct-call form `filt(ex)`: accepted → returns and changes nothing; rejected →
    raises `ex` itself, with its own traceback under the frames `__call__` and scenario (whether or
    not `ex` is the exception being handled); nothing else changes. -/
theorem filter_call_exact (bound : FilterForm) (p : Pred) (e : ExcId) (c : Sre) (s : St) :
    (p.eval e = .accept → exec (.filterCall bound p e) c s = ⟨s, c, .ok⟩) ∧
    (p.eval e = .reject →
        (exec (.filterCall bound p e) c s).out = .raised e ∧
        (exec (.filterCall bound p e) c s).st.heap.tb e = [.scen, .filtCall] ++ s.heap.tb e ∧
        (∀ i, i ≠ e → (exec (.filterCall bound p e) c s).st.heap.tb i = s.heap.tb i) ∧
        (exec (.filterCall bound p e) c s).st.log = s.log ∧
        (exec (.filterCall bound p e) c s).st.heap.next = s.heap.next) := by
  constructor
  · intro hp; simp [exec, filterCall, callPred, mkFilter_eq, hp]
  · intro hp
    simp [exec, mkFilter_eq, filterCall_reject ⟨p.eval⟩ e s hp, St.through, Heap.through, Heap.setTb]
    intro i hi; simp [hi]

/-- the body completes: nothing is removed, nothing raised -/
theorem rpoe_body_completes_untouched (rm : RemoveFn) (body : Body) (c : Sre) (s : St)
    (h : (exec body c s).out = .ok) : exec (.rpoe rm body) c s = exec body c s := by
  simp [exec, h]

/-- `delete_if_exists` on anything but a directory leaves no directory entry behind: a regular file, an
    absent path, and a symbolic link to a file, to a directory, to nothing (dangling) or to itself are all
    gone afterwards, and nothing is raised -/
theorem delete_if_exists_removes (s : St) (h : s.path ≠ .dir) :
    (deleteIfExists s).2 = .ok ∧ (deleteIfExists s).1.path = .absent ∧
    (deleteIfExists s).1.heap = s.heap ∧ (deleteIfExists s).1.log = s.log ∧
    (deleteIfExists s).1.excInfo = s.excInfo := by
  rw [deleteIfExists_not_dir s h]
  exact ⟨rfl, rfl, rfl, rfl, rfl⟩

/-- **rpoe_removes_then_reraises.**  For every body that raises an `Exception` subclass instance `e`,
    with the default `remove` or a user function that delegates to `delete_if_exists` (path anything but
    a directory: regular file, absent, symbolic link to a file / a directory / nothing / itself), or a
    custom one that just returns: the path is removed (no directory entry left, for the first two) and
    `e` — the same object — is re-raised with every traceback, `e`'s included, exactly as it left the
    body; nothing is logged and no object is created. -/
theorem rpoe_removes_then_reraises (rm : RemoveFn) (body : Body) (c : Sre) (s : St) (e : ExcId)
    (hr : (exec body c s).out = .raised e)
    (hex : ((exec body c s).st.heap.cls e).isExc = true)
    (hrm : rm = .default ∨ rm = .wrapped ∨ rm = .noop)
    (hdir : rm ≠ .noop → (exec body c s).st.path ≠ .dir) :
    (exec (.rpoe rm body) c s).out = .raised e ∧
    (∀ i, (exec (.rpoe rm body) c s).st.heap.tb i = (exec body c s).st.heap.tb i) ∧
    (exec (.rpoe rm body) c s).st.log = (exec body c s).st.log ∧
    (exec (.rpoe rm body) c s).st.path = (if rm = .noop then (exec body c s).st.path else .absent) ∧
    (exec (.rpoe rm body) c s).st.heap.next = (exec body c s).st.heap.next ∧
    (exec (.rpoe rm body) c s).ctx = (exec body c s).ctx := by
  have hx : rpoeExit rm e (exec body c s).st =
      ({ (exec body c s).st with path := if rm = .noop then (exec body c s).st.path else .absent },
        .raised e) := by
    rcases hrm with rfl | rfl | rfl
    · exact rpoeExit_not_dir _ e _ hex (.inl rfl) (hdir nofun)
    · exact rpoeExit_not_dir _ e _ hex (.inr rfl) (hdir nofun)
    · exact rpoeExit_noop e _ hex
  simp [exec, hr, hx]

/-- on a *directory* the default remover (and a delegating one) fails: the OSError it raises propagates,
    the original is logged once, the directory stays -/
theorem rpoe_directory_remove_fails (rm : RemoveFn) (body : Body) (c : Sre) (s : St) (e : ExcId)
    (hr : (exec body c s).out = .raised e)
    (hex : ((exec body c s).st.heap.cls e).isExc = true)
    (he : e < (exec body c s).st.heap.next)
    (hrm : rm = .default ∨ rm = .wrapped) (hdir : (exec body c s).st.path = .dir) :
    (exec (.rpoe rm body) c s).out = .raised (exec body c s).st.heap.next ∧
    (exec (.rpoe rm body) c s).st.heap.cls (exec body c s).st.heap.next = .osError ∧
    (exec (.rpoe rm body) c s).st.log =
      (exec body c s).st.log ++ [⟨some e, .rpoeGen :: (exec body c s).st.heap.tb e, .library⟩] ∧
    (exec (.rpoe rm body) c s).st.path = .dir := by
  simp only [exec, hr]
  exact rpoeExit_dir rm e _ hex he hrm hdir

/-- a failing `remove` (it raises `x`, not the original): `x` propagates and the original is logged
    once, with the traceback it had inside the generator -/
theorem rpoe_remove_failure_propagates (body : Body) (c : Sre) (s : St) (e x : ExcId)
    (hr : (exec body c s).out = .raised e)
    (hex : ((exec body c s).st.heap.cls e).isExc = true) (hx : x ≠ e) :
    (exec (.rpoe (.raises x) body) c s).out = .raised x ∧
    (exec (.rpoe (.raises x) body) c s).st.log =
      (exec body c s).st.log ++ [⟨some e, .rpoeGen :: (exec body c s).st.heap.tb e, .library⟩] ∧
    (exec (.rpoe (.raises x) body) c s).st.path = (exec body c s).st.path := by
  simp [exec, hr, rpoeExit_of_remove_raised (.raises x) e x _ _ hex rfl, cmExit, hx, St.through]

/-- **Proved negative (interpretation, see the harness ASSUMPTIONS).**  An exception that is not an
    `Exception` subclass (`except Exception` does not catch it) passes through `remove_path_on_error`
    as the same object with every traceback as it was — and the path is *not* removed, whatever
    `remove` is. -/
theorem rpoe_baseexception_passes_unremoved (rm : RemoveFn) (body : Body) (c : Sre) (s : St) (e : ExcId)
    (hr : (exec body c s).out = .raised e)
    (hex : ((exec body c s).st.heap.cls e).isExc = false) :
    (exec (.rpoe rm body) c s).out = .raised e ∧
    (∀ i, (exec (.rpoe rm body) c s).st.heap.tb i = (exec body c s).st.heap.tb i) ∧
    (exec (.rpoe rm body) c s).st.path = (exec body c s).st.path ∧
    (exec (.rpoe rm body) c s).st.log = (exec body c s).st.log := by
  simp [exec, hr, rpoeExit_not_exc rm e _ hex]

/-- the cause is the exception being handled (or None when there is none) unless one is given;
    the new exception is a new object raised from `raise_with_cause` -/
theorem rwc_cause_is_active (explicit : Option (Option ExcId)) (c : Sre) (s : St) :
    (exec (.rwc explicit) c s).out = .raised s.heap.next ∧
    (exec (.rwc explicit) c s).st.heap.cause s.heap.next =
      (match explicit with
       | some given => given
       | none => s.active) ∧
    (exec (.rwc explicit) c s).st.heap.suppress s.heap.next = true ∧
    (exec (.rwc explicit) c s).st.heap.cls s.heap.next = .caused ∧
    (exec (.rwc explicit) c s).st.heap.tb s.heap.next = [.scen, .rwc] ∧
    (∀ i, i ≠ s.heap.next → (exec (.rwc explicit) c s).st.heap.tb i = s.heap.tb i) := by
  simp [exec, St.raiseFresh, Heap.alloc, St.through, Heap.through, Heap.setTb]
  refine ⟨rfl, ?_⟩
  intro i hi; simp [hi]

/-! ### non-vacuity: concrete instances of the hypotheses above -/

/-- E0 plain with a prior traceback, E1 needs constructor arguments, E2 is BaseException-only -/
def demoState : St :=
  ⟨⟨fun i => if i = 0 then .user 0 false true else if i = 1 then .user 1 true true else .user 2 false false,
    fun i => if i = 0 then [.prior 1, .prior 0] else [], fun i => if i = 0 then some 2 else none,
    fun i => i = 0, 3⟩, [], [], .file⟩

/-- a body that re-raises E0 itself and catches it, raises-and-catches E1 inside an inner handler with a
    nested context that is switched off, toggles the flag off and on again — no direct operation -/
def demoBody : Body :=
  .seq (.raiseCatch 0) (.seq (.handle 1 (.nest true (.setReraise false)))
    (.seq (.setReraise false) (.setReraise true)))

/-- the state inside `try: raise E0 / except:` -/
def demoHandling : St := { demoState.through 0 .scen with excInfo := [0] }

-- hypotheses of sre_reraises_same / sre_saved_invariant, and its conclusion on the concrete run
example :
    demoHandling.active = some 0 ∧ demoBody.direct = false ∧
    (exec demoBody (enter (Sre.init false) demoHandling) demoHandling).out = .ok ∧
    (exec demoBody (enter (Sre.init false) demoHandling) demoHandling).ctx.reraise = true ∧
    (exec demoBody (enter (Sre.init false) demoHandling) demoHandling).st.heap.tb 0
      = [.scen, .scen, .prior 1, .prior 0] ∧
    (exec (.nest false demoBody) (Sre.init true) demoHandling).out = .raised 0 ∧
    (exec (.nest false demoBody) (Sre.init true) demoHandling).st.heap.tb 0
      = [.scen, .sreExit, .sreForce, .scen, .prior 1, .prior 0] := by
  decide

-- sre_flag_off_silent: completes with the flag off
example :
    (exec (.setReraise false) (enter (Sre.init true) demoHandling) demoHandling).out = .ok ∧
    (exec (.setReraise false) (enter (Sre.init true) demoHandling) demoHandling).ctx.reraise = false := by
  decide

-- sre_body_raise_propagates / sre_body_raise_logs_original: the body raises E1, flag on
example :
    (exec (.seq (.raiseCatch 0) (.raiseNew 1)) (enter (Sre.init true) demoHandling) demoHandling).out = .raised 1 ∧
    (exec (.nest true (.seq (.raiseCatch 0) (.raiseNew 1))) (Sre.init true) demoHandling).st.log
      = [⟨some 0, [.scen, .prior 1, .prior 0], .scenario⟩] ∧
    (exec (.nest false (.seq (.raiseCatch 0) (.raiseNew 1))) (Sre.init true) demoHandling).st.log = [] := by
  decide

-- sre_capture_retargets / sre_capture_then_exit: capture inside an inner handler re-targets to E1
example :
    (run true (.handle 0 (.nest true (.handle 1 .capture))) demoState).out = .raised 1 ∧
    (run true (.handle 0 (.nest true (.handle 1 .capture))) demoState).st.heap.tb 1
      = [.scen, .sreExit, .sreForce, .scen] := by
  decide

-- sre_late_ops_see_saved / sre_late_force_reraises_saved / sre_late_force_after_except: the body re-raises
-- E0 and switches the flag off; the late force_reraise() gives E0 with the traceback saved at entry
example :
    (exec (.seq (.raiseCatch 0) (.setReraise false)) (enter (Sre.init true) demoHandling) demoHandling).out = .ok ∧
    (exec (.seq (.raiseCatch 0) (.setReraise false)) (enter (Sre.init true) demoHandling) demoHandling).ctx.reraise
      = false ∧
    (exec (.nestThen true (.seq (.raiseCatch 0) (.setReraise false)) (.forceReraise false)) (Sre.init true)
      demoHandling).out = .raised 0 ∧
    (exec (.nestThen true (.seq (.raiseCatch 0) (.setReraise false)) (.forceReraise false)) (Sre.init true)
      demoHandling).st.heap.tb 0 = [.scen, .sreForce, .scen, .prior 1, .prior 0] ∧
    (run true (.handleNestThen 0 false .nop (.forceReraise false)) demoState).out = .raised 0 ∧
    (run true (.handleNestThen 0 false .nop (.forceReraise false)) demoState).st.heap.tb 0
      = [.scen, .sreForce, .scen, .prior 1, .prior 0] ∧
    (run true (.handleNestThen 0 false .nop .capture) demoState).out = .raised 3 := by
  decide

-- sre_reuse_*: one context object used for two failures (the first re-raise is swallowed, as in a retry
-- loop): the second use re-raises E1, not E0 and not a new instance; after a first use with the flag
-- switched off the second use is silent; a raising second body logs E1
example :
    (run true (.seq (.swallow (.handle 0 (.enterCur .nop))) (.handle 1 (.enterCur .nop))) demoState).out
      = .raised 1 ∧
    (run true (.seq (.swallow (.handle 0 (.enterCur .nop))) (.handle 1 (.enterCur .nop))) demoState).st.heap.tb 1
      = [.scen, .sreExit, .sreForce, .scen] ∧
    (run true (.seq (.swallow (.handle 0 (.enterCur .nop))) (.handle 1 (.enterCur .nop))) demoState).st.heap.next
      = 3 ∧
    (run true (.seq (.handle 0 (.enterCur (.setReraise false))) (.handle 1 (.enterCur .nop))) demoState).out = .ok ∧
    (run true (.seq (.swallow (.handle 0 (.enterCur .nop))) (.handle 1 (.enterCur (.raiseNew 2)))) demoState).st.log
      = [⟨some 1, [.scen], .scenario⟩] := by
  decide

-- sre_capture_nothing_active / sre_force_raises_saved
example : demoState.active = none ∧ (run true (.handle 0 (.seq .capture (.forceReraise false))) demoState).out
    = .raised 0 := by
  decide

-- filter_exact: each of the four cases occurs
example :
    let p : Pred := ⟨[1], [(2, 0)], .matchObj, .list 0⟩
    p.eval 1 = .accept ∧ p.eval 0 = .reject ∧ p.eval 2 = .raises 0 ∧
    (run true (.filterCtx .method p (.raiseNew 1)) demoState).out = .ok ∧
    (run true (.filterCtx .func p (.raiseNew 0)) demoState).out = .raised 0 ∧
    (run true (.filterCtx (.classMethod true) p (.raiseNew 2)) demoState).out = .raised 0 ∧
    (run true (.handle 1 (.filterCall (.staticMethod false) p 0)) demoState).out = .raised 0 ∧
    (run true (.handle 1 (.filterCall .method p 0)) demoState).st.heap.tb 0
      = [.scen, .filtCall, .prior 1, .prior 0] := by
  decide

-- rpoe_removes_then_reraises (E0, Exception subclass, path is a file), rpoe_remove_failure_propagates,
-- rpoe_baseexception_passes_unremoved (E2)
example :
    (exec (.raiseNew 0) (Sre.init true) demoState).out = .raised 0 ∧
    ((exec (.raiseNew 0) (Sre.init true) demoState).st.heap.cls 0).isExc = true ∧
    (exec (.raiseNew 0) (Sre.init true) demoState).st.path ≠ .dir ∧
    (run true (.rpoe .default (.raiseNew 0)) demoState).out = .raised 0 ∧
    (run true (.rpoe .default (.raiseNew 0)) demoState).st.path = .absent ∧
    (run true (.rpoe (.raises 1) (.raiseNew 0)) demoState).out = .raised 1 ∧
    ((exec (.raiseNew 2) (Sre.init true) demoState).st.heap.cls 2).isExc = false ∧
    (run true (.rpoe .default (.raiseNew 2)) demoState).out = .raised 2 ∧
    (run true (.rpoe .default (.raiseNew 2)) demoState).st.path = .file ∧
    -- a dangling symbolic link is removed too, by the default remover and by a delegating one
    (run true (.rpoe .default (.raiseNew 0)) { demoState with path := .link .missing }).st.path = .absent ∧
    (run true (.rpoe .wrapped (.raiseNew 0)) { demoState with path := .link .loop }).st.path = .absent ∧
    (run true (.rpoe .wrapped (.raiseNew 0)) { demoState with path := .link .loop }).out = .raised 0 ∧
    -- rpoe_directory_remove_fails
    (run true (.rpoe .wrapped (.raiseNew 0)) { demoState with path := .dir }).out = .raised 3 ∧
    (run true (.rpoe .wrapped (.raiseNew 0)) { demoState with path := .dir }).st.heap.tb 3
      = [.scen, .cmExit, .rpoeGen, .removeFn, .delete] := by
  decide

end Oslo.Exc

