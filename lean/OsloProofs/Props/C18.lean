/-
C18 — the spec matcher implements its documented operator table.

Property theorems only.  The model is `OsloModel/Specs.lean` (hand parser for the pyparsing
grammar of `make_grammar`, `match`, `op_methods`); the operator literals and their order, the keys
of `op_methods` and the two whitespace sets are the generated definitions of
`OsloModel/Generated/C18.lean`, so a change of the tables re-checks every theorem below.

Vocabulary of the statements (defined in `OsloProofs/Lemmas/C18.lean`):
* `White ws`   : `ws` consists of pyparsing whitespace (space, tab, LF, CR); may be empty;
* `IsAtom x`   : `x` is an operand of the documented language - non-empty, no `\s` character,
                 does not start with an operator literal;
* `Ends rest`  : `rest` is empty or starts with a `\s` character (`parseString` parses a prefix, so
                 the theorems hold whatever follows the last operand);
* `Operands`, `Alternatives`, `atomsSpec`, `orSpec` : several operands / `<or>` alternatives, each
                 preceded by at least one whitespace character;
* `Digits`, `decText`, `decValue` : decimal text `[-]ip[.fp]` and the rational it denotes.
Every theorem quantifies over all values `v`, all operands and all amounts of whitespace.

Numbers: `pyFloat` is `float()` on text, with exact rational values (binary64 rounding is not
modelled: the correspondence keeps numeric text within 15 significant digits, where the two agree).
-/
import OsloProofs.Lemmas.C18
namespace Oslo.Specs

/-- `ws0 op ws1 x rest` : the shape of a one-operand spec -/
structure UnaryShape (ws0 ws1 x rest : Str) : Prop where
  lead : White ws0
  sep : White ws1
  sep_ne : ws1 ≠ []
  operand : IsAtom x
  tail : Ends rest

/-- the model's operator table has exactly the keys of `op_methods`, in the same order -/
theorem op_table_keys : opTable.map (·.1) = Gen.opKeys := by decide +kernel

/-- every operator of `op_methods` is excluded as the start of an atom, and nothing else is
    ("an atom may not start with an operator literal") -/
theorem atom_excludes_exactly_the_operators :
    (∀ k ∈ Gen.opKeys, k ∈ Gen.notLits) ∧ (∀ l ∈ Gen.notLits, l ∈ Gen.opKeys) := by decide +kernel

/-- the grammar's operator literals are the 17 keys: 14 one-operand operators plus the three
    special forms -/
theorem grammar_literals_are_the_keys :
    ∀ k, k ∈ Gen.opKeys ↔ k ∈ Gen.unaryLits ∨ k = Gen.allInLit ∨ k = Gen.orLit ∨ k = Gen.rangeLit := by
  intro k
  have : k ∈ Gen.opKeys ↔ k ∈ Gen.notLits :=
    ⟨atom_excludes_exactly_the_operators.1 k, atom_excludes_exactly_the_operators.2 k⟩
  simp [this, lemma_notLits_eq]

/-- In the order pyparsing tries them, no operator literal is shadowed by an earlier, shorter one:
    standing alone, each of the 14 one-operand literals is recognised as itself (`==` is not read
    as `=`, `<=` not as `<`, `s<=` not as `s<`, `<in>` not as `<`, …). -/
theorem operator_literal_found_as_itself :
    ∀ op ∈ Gen.unaryLits, firstLit Gen.unaryLits op = some (op, []) := by decide +kernel

/-- For every one-operand operator `op`, every operand and all whitespace: the spec `op x` is parsed
    as the two tokens `[op, x]` - never as a shorter operator followed by a longer operand
    (`<= 5` is `['<=','5']`, not `<` applied to `=`…), and never as one of the special forms. -/
theorem longest_operator_wins (op : Str) (hop : op ∈ Gen.unaryLits) {ws0 ws1 x rest : Str}
    (S : UnaryShape ws0 ws1 x rest) :
    parse (ws0 ++ (op ++ (ws1 ++ (x ++ rest)))) = some [op, x] := by
  have hw := lemma_notLits_words op (lemma_unary_in_notLits hop)
  have he := lemma_ends_white_append ws1 (x ++ rest) S.sep S.sep_ne
  have hmf : matchFirst Gen.unaryLits (ws0 ++ (op ++ (ws1 ++ (x ++ rest))))
      = some (op, ws1 ++ (x ++ rest)) := by
    rw [matchFirst, lemma_skipWs_word _ _ _ S.lead hw, lemma_firstLit_ends _ _ _
      (fun L hL => (lemma_notLits_words L (lemma_unary_in_notLits hL)).2) he,
      operator_literal_found_as_itself _ hop]; rfl
  obtain ⟨hd, hn, hg⟩ := lemma_no_special ws0 op _ S.lead hw he (lemma_unary_not_special op hop)
  simp only [parse, hd, hn, hg, unary, hmf, lemma_atom ws1 x rest S.sep S.operand S.tail]

/-- the special forms win over `<` (their literals all begin with `<`) -/
theorem longest_operator_wins_special {ws0 m x e w1 b1 w2 lo w3 hi w4 b2 rest : Str}
    {alts : List (Str × Str × Str)} {items : List (Str × Str)}
    (h0 : White ws0) (hm : White m) (hx : IsAtom x) (halts : Alternatives alts) (he : White e)
    (hit : Operands items) (hne : items ≠ [])
    (hrg : Operands [(w1, b1), (w2, lo), (w3, hi), (w4, b2)]) (hr : Ends rest) :
    parse (ws0 ++ (Gen.orLit ++ (m ++ (x ++ orSpec alts e)))) = some (orTok :: x :: alts.map (·.2.2)) ∧
    parse (ws0 ++ (Gen.allInLit ++ atomsSpec items e)) = some (Gen.allInLit :: items.map (·.2)) ∧
    parse (ws0 ++ (Gen.rangeLit ++ atomsSpec [(w1, b1), (w2, lo), (w3, hi), (w4, b2)] rest))
      = some [Gen.rangeLit, b1, lo, hi, b2] :=
  ⟨lemma_parse_or ws0 m x alts e h0 hm hx halts he,
   lemma_parse_all_in ws0 items e h0 hit hne he,
   lemma_parse_range_in ws0 (w1, b1) (w2, lo) (w3, hi) (w4, b2) rest h0 hrg hr⟩

/-- whatever the spec: a parse with more than one token starts with a key of `op_methods` -/
theorem parsed_operator_has_method (s : Str) (t : List Str) (h : parse s = some t) :
    (∃ a, t = [a]) ∨ (∃ op a as, t = op :: a :: as ∧ (opTable.lookup op).isSome = true) := by
  revert h
  fun_cases parse s <;> intro h <;> cases h
  · obtain ⟨a, as, rfl⟩ := lemma_disjunction_some ‹_›
    exact Or.inr ⟨_, a, as, rfl, lemma_keys_tbl.2.2.2⟩
  · obtain ⟨a, as, rfl⟩ := lemma_nary_some ‹_›
    exact Or.inr ⟨_, a, as, rfl, lemma_keys_tbl.2.1⟩
  · obtain ⟨a, as, rfl⟩ := lemma_rangeOp_some ‹_›
    exact Or.inr ⟨_, a, as, rfl, lemma_keys_tbl.2.2.1⟩
  · obtain ⟨op, a, rfl, hop⟩ := lemma_unary_some ‹_›
    exact Or.inr ⟨op, a, [], rfl, lemma_keys_tbl.1 op hop⟩
  · exact Or.inl ⟨_, rfl⟩

/-- the documented meaning of the numeric comparisons, on rationals -/
def NumOp.meaning : NumOp → Rat → Rat → Bool
  | .ge, a, b => decide (b ≤ a)
  | .ne, a, b => decide (a ≠ b)
  | .le, a, b => decide (a ≤ b)
  | .lt, a, b => decide (a < b)
  | .eq, a, b => decide (a = b)
  | .gt, a, b => decide (b < a)

theorem lemma_numsem_fin (o : NumOp) (a b : Rat) : o.sem (.fin a) (.fin b) = o.meaning a b := by
  rcases Std.lt_trichotomy a b with h | rfl | h
  · have := Rat.ne_of_lt h
    have := Rat.le_of_lt h
    have := Rat.not_lt.mpr this
    have := Rat.not_le.mpr h
    cases o <;> simp [NumOp.sem, PyNum.cmp, NumOp.meaning, *]
  · have := @Rat.lt_irrefl a
    have := @Rat.le_refl a
    cases o <;> simp [NumOp.sem, PyNum.cmp, NumOp.meaning, *]
  · have := Rat.ne_of_gt h
    have := Rat.le_of_lt h
    have := Rat.not_lt.mpr this
    have := Rat.not_le.mpr h
    cases o <;> simp [NumOp.sem, PyNum.cmp, NumOp.meaning, *]

theorem lemma_match_parsed (v : Str) {s op a : Str} {as : List Str} {k : OpKind}
    (hp : parse s = some (op :: a :: as)) (hk : opTable.lookup op = some k) :
    matchSpec v s = applyOp k v (a :: as) := by
  simp only [matchSpec, hp, evalTokens, hk]

theorem lemma_match_unary (op : Str) (k : OpKind) (hop : op ∈ Gen.unaryLits)
    (hk : opTable.lookup op = some k) (v : Str) {ws0 ws1 x rest : Str} (S : UnaryShape ws0 ws1 x rest) :
    matchSpec v (ws0 ++ (op ++ (ws1 ++ (x ++ rest)))) = applyOp k v [x] :=
  lemma_match_parsed v (longest_operator_wins op hop S) hk

theorem lemma_match_num (op : Str) (o : NumOp) (hop : op ∈ Gen.unaryLits)
    (hk : opTable.lookup op = some (.num o)) (v : Str) {ws0 ws1 x rest : Str}
    (S : UnaryShape ws0 ws1 x rest) {a b : Rat}
    (hv : pyFloat v = .num (.fin a)) (hy : pyFloat x = .num (.fin b)) :
    matchSpec v (ws0 ++ (op ++ (ws1 ++ (x ++ rest)))) = .ok (o.sem (.fin a) (.fin b)) := by
  rw [lemma_match_unary op _ hop hk v S]
  simp only [applyOp, numCmp, hv, hy]

/-- `= x` : "equal to or greater than" (the legacy meaning, same as `>=`) -/
theorem match_op_legacy_eq (v : Str) {ws0 ws1 x rest : Str} (S : UnaryShape ws0 ws1 x rest) {a b : Rat}
    (hv : pyFloat v = .num (.fin a)) (hy : pyFloat x = .num (.fin b)) :
    matchSpec v (ws0 ++ (['='] ++ (ws1 ++ (x ++ rest)))) = .ok (decide (b ≤ a)) := by
  rw [lemma_match_num _ .ge (by decide) (by decide) v S hv hy, lemma_numsem_fin]; rfl

/-- `!= x` : the value and `x`, read as numbers, differ -/
theorem match_op_ne (v : Str) {ws0 ws1 x rest : Str} (S : UnaryShape ws0 ws1 x rest) {a b : Rat}
    (hv : pyFloat v = .num (.fin a)) (hy : pyFloat x = .num (.fin b)) :
    matchSpec v (ws0 ++ (['!', '='] ++ (ws1 ++ (x ++ rest)))) = .ok (decide (a ≠ b)) := by
  rw [lemma_match_num _ .ne (by decide) (by decide) v S hv hy, lemma_numsem_fin]; rfl

/-- `<= x` : the value, read as a number, is at most `x` -/
theorem match_op_le (v : Str) {ws0 ws1 x rest : Str} (S : UnaryShape ws0 ws1 x rest) {a b : Rat}
    (hv : pyFloat v = .num (.fin a)) (hy : pyFloat x = .num (.fin b)) :
    matchSpec v (ws0 ++ (['<', '='] ++ (ws1 ++ (x ++ rest)))) = .ok (decide (a ≤ b)) := by
  rw [lemma_match_num _ .le (by decide) (by decide) v S hv hy, lemma_numsem_fin]; rfl

/-- `< x` : the value, read as a number, is below `x` -/
theorem match_op_lt (v : Str) {ws0 ws1 x rest : Str} (S : UnaryShape ws0 ws1 x rest) {a b : Rat}
    (hv : pyFloat v = .num (.fin a)) (hy : pyFloat x = .num (.fin b)) :
    matchSpec v (ws0 ++ (['<'] ++ (ws1 ++ (x ++ rest)))) = .ok (decide (a < b)) := by
  rw [lemma_match_num _ .lt (by decide) (by decide) v S hv hy, lemma_numsem_fin]; rfl

/-- `== x` : the value and `x` are the same number (not the same text) -/
theorem match_op_eq (v : Str) {ws0 ws1 x rest : Str} (S : UnaryShape ws0 ws1 x rest) {a b : Rat}
    (hv : pyFloat v = .num (.fin a)) (hy : pyFloat x = .num (.fin b)) :
    matchSpec v (ws0 ++ (['=', '='] ++ (ws1 ++ (x ++ rest)))) = .ok (decide (a = b)) := by
  rw [lemma_match_num _ .eq (by decide) (by decide) v S hv hy, lemma_numsem_fin]; rfl

/-- `>= x` : the value, read as a number, is at least `x` -/
theorem match_op_ge (v : Str) {ws0 ws1 x rest : Str} (S : UnaryShape ws0 ws1 x rest) {a b : Rat}
    (hv : pyFloat v = .num (.fin a)) (hy : pyFloat x = .num (.fin b)) :
    matchSpec v (ws0 ++ (['>', '='] ++ (ws1 ++ (x ++ rest)))) = .ok (decide (b ≤ a)) := by
  rw [lemma_match_num _ .ge (by decide) (by decide) v S hv hy, lemma_numsem_fin]; rfl

/-- `> x` : the value, read as a number, is above `x` -/
theorem match_op_gt (v : Str) {ws0 ws1 x rest : Str} (S : UnaryShape ws0 ws1 x rest) {a b : Rat}
    (hv : pyFloat v = .num (.fin a)) (hy : pyFloat x = .num (.fin b)) :
    matchSpec v (ws0 ++ (['>'] ++ (ws1 ++ (x ++ rest)))) = .ok (decide (b < a)) := by
  rw [lemma_match_num _ .gt (by decide) (by decide) v S hv hy, lemma_numsem_fin]; rfl

/-- All seven numeric operators, any text on either side: the result is `float(v) <op> float(x)`
    as `numCmp` computes it - in particular `ValueError` as soon as one side is not a number
    (and IEEE rules for `inf`/`nan`). -/
theorem match_numeric_general (op : Str) (o : NumOp) (hop : op ∈ Gen.unaryLits)
    (hk : opTable.lookup op = some (.num o)) (v : Str) {ws0 ws1 x rest : Str}
    (S : UnaryShape ws0 ws1 x rest) :
    matchSpec v (ws0 ++ (op ++ (ws1 ++ (x ++ rest)))) = numCmp o v x ∧
    (pyFloat v = .valueError → numCmp o v x = .err .valueError) ∧
    (∀ n, pyFloat v = .num n → pyFloat x = .valueError → numCmp o v x = .err .valueError) := by
  refine ⟨by rw [lemma_match_unary op _ hop hk v S]; rfl, ?_, ?_⟩
  · intro h; simp [numCmp, h]
  · intro n h1 h2; simp [numCmp, h1, h2]

/-- The number a decimal text denotes: optional `-`, digits `ip`, optionally `.` and digits `fp`
    (`decText`) is read by `float()` as the rational `± (ip + fp / 10^|fp|)` (`decValue`). -/
theorem decimal_text_value (neg : Bool) (ip fp : Str) (hne : ip ≠ []) (hd : Digits ip) (hfd : Digits fp) :
    pyFloat (decText neg ip fp) = .num (.fin (decValue neg ip fp)) := by
  have hq := lemma_floatNumber_decimal ip fp hne hd hfd
  have hall := lemma_decText_chars neg ip fp hd hfd
  obtain ⟨d, m, rfl⟩ := List.exists_cons_of_ne_nil hne
  exact lemma_pyFloat_plain neg d (m ++ if fp = [] then [] else '.' :: fp) _ (hd d (by simp)) hall hq

/-- All seven numeric operators on decimal texts, with no hypothesis left about `float()`: the
    result is the comparison of the two rationals the texts denote. -/
theorem numeric_ops_on_decimal_texts (op : Str) (o : NumOp) (hop : op ∈ Gen.unaryLits)
    (hk : opTable.lookup op = some (.num o)) (n1 n2 : Bool) (ip1 fp1 ip2 fp2 : Str)
    (h1 : ip1 ≠ [] ∧ Digits ip1 ∧ Digits fp1) (h2 : ip2 ≠ [] ∧ Digits ip2 ∧ Digits fp2)
    {ws0 ws1 rest : Str} (hw0 : White ws0) (hw1 : White ws1) (hne : ws1 ≠ []) (hr : Ends rest) :
    matchSpec (decText n1 ip1 fp1) (ws0 ++ (op ++ (ws1 ++ (decText n2 ip2 fp2 ++ rest))))
      = .ok (o.meaning (decValue n1 ip1 fp1) (decValue n2 ip2 fp2)) := by
  have S : UnaryShape ws0 ws1 (decText n2 ip2 fp2) rest :=
    ⟨hw0, hw1, hne, lemma_decimal_atom n2 ip2 fp2 h2.1 h2.2.1 h2.2.2, hr⟩
  rw [lemma_match_num op o hop hk _ S (decimal_text_value n1 ip1 fp1 h1.1 h1.2.1 h1.2.2)
    (decimal_text_value n2 ip2 fp2 h2.1 h2.2.1 h2.2.2), lemma_numsem_fin]

/-- the seven numeric operators and what they denote (`=` and `>=` are the same function) -/
theorem numeric_operator_table :
    opTable.lookup ['='] = some (.num .ge) ∧ opTable.lookup ['!', '='] = some (.num .ne) ∧
    opTable.lookup ['<', '='] = some (.num .le) ∧ opTable.lookup ['<'] = some (.num .lt) ∧
    opTable.lookup ['=', '='] = some (.num .eq) ∧ opTable.lookup ['>', '='] = some (.num .ge) ∧
    opTable.lookup ['>'] = some (.num .gt) ∧
    (∀ op ∈ [['='], ['!', '='], ['<', '='], ['<'], ['=', '='], ['>', '='], ['>']], op ∈ Gen.unaryLits) := by
  decide +kernel

/-! ### string operators: Python `str` order is lexicographic by code point -/

theorem lemma_beq_decide (a b : Str) : (a == b) = decide (a = b) := by
  by_cases h : a = b <;> simp [h]

theorem lemma_char_lt (a b : Char) : a < b ↔ a.toNat < b.toNat := by
  rw [Char.lt_def]; exact UInt32.lt_iff_toNat_lt

theorem lemma_strLt_decide (a b : Str) : strLt a b = decide (a < b) := by
  rw [Bool.eq_iff_iff, decide_eq_true_iff]
  induction a generalizing b with
  | nil => cases b <;> simp [strLt]
  | cons c a ih =>
    cases b with
    | nil => simp [strLt]
    | cons d b =>
      rw [List.cons_lt_cons_iff, lemma_char_lt, ← ih b]
      simp only [strLt]
      by_cases h1 : c.toNat < d.toNat
      · simp [h1]
      · by_cases h2 : c = d <;> simp [h1, h2]

theorem lemma_strsem (o : StrOp) (v x : Str) :
    o.sem v x = match o with
      | .ne => decide (v ≠ x) | .lt => decide (v < x) | .le => decide (v ≤ x)
      | .eq => decide (v = x) | .gt => decide (x < v) | .ge => decide (x ≤ v) := by
  cases o <;> simp only [StrOp.sem, lemma_strLt_decide, bne, lemma_beq_decide, List.le_iff_lt_or_eq,
    Bool.decide_or, decide_not, @eq_comm _ x v]

theorem lemma_match_str (op : Str) (o : StrOp) (hop : op ∈ Gen.unaryLits)
    (hk : opTable.lookup op = some (.str o)) (v : Str) {ws0 ws1 x rest : Str}
    (S : UnaryShape ws0 ws1 x rest) :
    matchSpec v (ws0 ++ (op ++ (ws1 ++ (x ++ rest)))) = .ok (o.sem v x) :=
  lemma_match_unary op _ hop hk v S

/-- `s< x` : the value comes before `x` in Python's `str` order -/
theorem match_op_s_lt (v : Str) {ws0 ws1 x rest : Str} (S : UnaryShape ws0 ws1 x rest) :
    matchSpec v (ws0 ++ (['s', '<'] ++ (ws1 ++ (x ++ rest)))) = .ok (decide (v < x)) := by
  rw [lemma_match_str _ .lt (by decide) (by decide) v S, lemma_strsem]

/-- `s<= x` : the value comes before `x` in Python's `str` order, or is `x` -/
theorem match_op_s_le (v : Str) {ws0 ws1 x rest : Str} (S : UnaryShape ws0 ws1 x rest) :
    matchSpec v (ws0 ++ (['s', '<', '='] ++ (ws1 ++ (x ++ rest)))) = .ok (decide (v ≤ x)) := by
  rw [lemma_match_str _ .le (by decide) (by decide) v S, lemma_strsem]

/-- `s== x` : the value is the text `x` -/
theorem match_op_s_eq (v : Str) {ws0 ws1 x rest : Str} (S : UnaryShape ws0 ws1 x rest) :
    matchSpec v (ws0 ++ (['s', '=', '='] ++ (ws1 ++ (x ++ rest)))) = .ok (decide (v = x)) := by
  rw [lemma_match_str _ .eq (by decide) (by decide) v S, lemma_strsem]

/-- `s!= x` : the value is not the text `x` -/
theorem match_op_s_ne (v : Str) {ws0 ws1 x rest : Str} (S : UnaryShape ws0 ws1 x rest) :
    matchSpec v (ws0 ++ (['s', '!', '='] ++ (ws1 ++ (x ++ rest)))) = .ok (decide (v ≠ x)) := by
  rw [lemma_match_str _ .ne (by decide) (by decide) v S, lemma_strsem]

/-- `s> x` : the value comes after `x` in Python's `str` order -/
theorem match_op_s_gt (v : Str) {ws0 ws1 x rest : Str} (S : UnaryShape ws0 ws1 x rest) :
    matchSpec v (ws0 ++ (['s', '>'] ++ (ws1 ++ (x ++ rest)))) = .ok (decide (x < v)) := by
  rw [lemma_match_str _ .gt (by decide) (by decide) v S, lemma_strsem]

/-- `s>= x` : the value comes after `x` in Python's `str` order, or is `x` -/
theorem match_op_s_ge (v : Str) {ws0 ws1 x rest : Str} (S : UnaryShape ws0 ws1 x rest) :
    matchSpec v (ws0 ++ (['s', '>', '='] ++ (ws1 ++ (x ++ rest)))) = .ok (decide (x ≤ v)) := by
  rw [lemma_match_str _ .ge (by decide) (by decide) v S, lemma_strsem]

/-- `s<=` and `s<` differ exactly at equality, and so do `s>=` and `s>` (for all strings) -/
theorem s_le_is_s_lt_or_equal (v x : Str) :
    (v ≤ x ↔ (v < x ∨ v = x)) ∧ (x ≤ v ↔ (x < v ∨ v = x)) ∧ ¬ (v < v) := by
  refine ⟨List.le_iff_lt_or_eq, ?_, List.lt_irrefl v⟩
  rw [List.le_iff_lt_or_eq]
  constructor <;> (rintro (h | h); exact Or.inl h; exact Or.inr h.symm)

theorem lemma_isPrefix_iff (y x : Str) : isPrefix y x = true ↔ y <+: x := by
  induction y generalizing x with
  | nil => simp [isPrefix]
  | cons a y ih =>
    cases x with
    | nil => simp [isPrefix]
    | cons b x => simp [isPrefix, ih, List.cons_prefix_cons]

theorem lemma_isInfix_iff (y x : Str) : isInfix y x = true ↔ y <:+: x := by
  induction x with
  | nil => simp [isInfix]
  | cons c x ih =>
    simp only [isInfix, Bool.or_eq_true, lemma_isPrefix_iff, ih, List.infix_cons_iff]

/-- `<in> x` : `x` occurs in the value as a contiguous substring -/
theorem match_op_in (v : Str) {ws0 ws1 x rest : Str} (S : UnaryShape ws0 ws1 x rest) :
    matchSpec v (ws0 ++ (['<', 'i', 'n', '>'] ++ (ws1 ++ (x ++ rest)))) = .ok (decide (x <:+: v)) := by
  rw [lemma_match_unary _ .isIn (by decide) (by decide) v S]
  simp [applyOp, ← lemma_isInfix_iff]

/-- `<or> x₁ <or> x₂ … <or> xₙ` (n ≥ 1) : the value equals one of the alternatives -/
theorem match_op_or (v : Str) {ws0 m x e : Str} {alts : List (Str × Str × Str)}
    (h0 : White ws0) (hm : White m) (hx : IsAtom x) (halts : Alternatives alts) (he : White e) :
    matchSpec v (ws0 ++ (Gen.orLit ++ (m ++ (x ++ orSpec alts e))))
      = .ok (decide (v ∈ x :: alts.map (·.2.2))) := by
  rw [lemma_match_parsed v (lemma_parse_or ws0 m x alts e h0 hm hx halts he) (k := .or) (by decide)]
  simp only [applyOp, List.any_beq, List.contains_eq_mem]

/-- `<all-in> x₁ … xₙ` (n ≥ 1) against a value that is a list literal: every `xᵢ` is one of the
    list's string items -/
theorem match_op_all_in (v : Str) {ws0 e : Str} {items : List (Str × Str)} {l : List Item}
    (h0 : White ws0) (hit : Operands items) (hne : items ≠ []) (he : White e)
    (hv : pyLiteral v = some (.list l)) :
    matchSpec v (ws0 ++ (Gen.allInLit ++ atomsSpec items e))
      = .ok (decide (∀ y ∈ items.map (fun i : Str × Str => i.2), Item.str y ∈ l)) := by
  obtain ⟨i, r, rfl⟩ := List.exists_cons_of_ne_nil hne
  rw [lemma_match_parsed v (lemma_parse_all_in ws0 _ e h0 hit hne he) (k := .allIn) (by decide)]
  simp only [applyOp, allIn, hv, List.contains_eq_mem, List.decide_forall_mem, List.map_cons]

/-- … and against a value that is a string or number literal it raises `TypeError` -/
theorem match_op_all_in_not_a_list (v : Str) {ws0 e : Str} {items : List (Str × Str)} {a : Item}
    (h0 : White ws0) (hit : Operands items) (hne : items ≠ []) (he : White e)
    (hv : pyLiteral v = some (.item a)) :
    matchSpec v (ws0 ++ (Gen.allInLit ++ atomsSpec items e)) = .err .typeError := by
  obtain ⟨i, r, rfl⟩ := List.exists_cons_of_ne_nil hne
  rw [lemma_match_parsed v (lemma_parse_all_in ws0 _ e h0 hit hne he) (k := .allIn) (by decide)]
  simp only [applyOp, allIn, hv]

/-- `<range-in> b₁ lo hi b₂` with any four operands: the result is `_range_in` on them -/
theorem match_op_range_in (v : Str) {ws0 w1 b1 w2 lo w3 hi w4 b2 rest : Str} (h0 : White ws0)
    (hit : Operands [(w1, b1), (w2, lo), (w3, hi), (w4, b2)]) (hr : Ends rest) :
    matchSpec v (ws0 ++ (Gen.rangeLit ++ atomsSpec [(w1, b1), (w2, lo), (w3, hi), (w4, b2)] rest))
      = rangeIn v [b1, lo, hi, b2] :=
  lemma_match_parsed v (lemma_parse_range_in ws0 (w1, b1) (w2, lo) (w3, hi) (w4, b2) rest h0 hit hr)
    (k := .rangeIn) (by decide)

theorem lemma_bracket_atom {c : Char} (h : c ∈ ['[', '(', ']', ')']) : IsAtom [c] :=
  have : ∀ c ∈ ['[', '(', ']', ')'], isSpace c = false ∧ startsWithOp [c] = false := by decide +kernel
  ⟨List.cons_ne_nil _ _, fun _ hd => List.mem_singleton.mp hd ▸ (this c h).1, (this c h).2⟩

/-- All four bracket combinations, ends honoured: for a numeric value `q` and bounds `a ≤ b`,
    `[`/`]` include the end, `(`/`)` exclude it. -/
theorem range_in_brackets (v : Str) (lb rb : Char) (hlb : lb = '[' ∨ lb = '(') (hrb : rb = ']' ∨ rb = ')')
    {ws0 w1 w2 lo w3 hi w4 rest : Str} {q a b : Rat} (h0 : White ws0)
    (h1 : White w1 ∧ w1 ≠ []) (h2 : White w2 ∧ w2 ≠ []) (h3 : White w3 ∧ w3 ≠ [])
    (h4 : White w4 ∧ w4 ≠ []) (hlo : IsAtom lo) (hhi : IsAtom hi) (hr : Ends rest)
    (hv : pyLiteral v = some (.item (.num q)))
    (ha : pyFloat lo = .num (.fin a)) (hb : pyFloat hi = .num (.fin b)) (hab : a ≤ b) :
    matchSpec v (ws0 ++ (Gen.rangeLit ++ atomsSpec [(w1, [lb]), (w2, lo), (w3, hi), (w4, [rb])] rest))
      = .ok (decide ((if lb = '[' then a ≤ q else a < q) ∧ (if rb = ']' then q ≤ b else q < b))) := by
  have hb1 : IsAtom [lb] := lemma_bracket_atom (by rcases hlb with rfl | rfl <;> simp)
  have hb2 : IsAtom [rb] := lemma_bracket_atom (by rcases hrb with rfl | rfl <;> simp)
  have hit : Operands [(w1, [lb]), (w2, lo), (w3, hi), (w4, [rb])] := by
    simp only [Operands, List.forall_mem_cons, List.not_mem_nil, false_imp_iff, implies_true, and_true]
    exact ⟨⟨h1.1, h1.2, hb1⟩, ⟨h2.1, h2.2, hlo⟩, ⟨h3.1, h3.2, hhi⟩, h4.1, h4.2, hb2⟩
  rw [match_op_range_in v h0 hit hr]
  have hgt : NumOp.gt.sem (.fin a) (.fin b) = false := by
    rw [lemma_numsem_fin]; simp [NumOp.meaning]; exact Rat.not_lt.mpr hab
  simp only [rangeIn, hv, litFloat, ha, hb, hgt]
  rcases hlb with rfl | rfl <;> rcases hrb with rfl | rfl <;>
    simp [lemma_numsem_fin, NumOp.meaning]

/-- bounds in the wrong order raise `TypeError`, whatever the brackets -/
theorem range_in_reversed_bounds_raise (v : Str) {ws0 w1 b1 w2 lo w3 hi w4 b2 rest : Str} {q a b : Rat}
    (h0 : White ws0) (hit : Operands [(w1, b1), (w2, lo), (w3, hi), (w4, b2)]) (hr : Ends rest)
    (hv : pyLiteral v = some (.item (.num q)))
    (ha : pyFloat lo = .num (.fin a)) (hb : pyFloat hi = .num (.fin b)) (hab : b < a) :
    matchSpec v (ws0 ++ (Gen.rangeLit ++ atomsSpec [(w1, b1), (w2, lo), (w3, hi), (w4, b2)] rest))
      = .err .typeError := by
  rw [match_op_range_in v h0 hit hr]
  have hgt : NumOp.gt.sem (.fin a) (.fin b) = true := by
    rw [lemma_numsem_fin]; simp [NumOp.meaning]; exact hab
  simp [rangeIn, hv, litFloat, ha, hb, hgt]

/-- a spec that is a single operand (no operator) is plain string equality with that operand -/
theorem no_operator_is_equality (v : Str) {ws0 x rest : Str} (h0 : White ws0) (hx : IsAtom x)
    (hr : Ends rest) : matchSpec v (ws0 ++ (x ++ rest)) = .ok (decide (x = v)) := by
  simp [matchSpec, lemma_parse_plain ws0 x rest h0 hx hr, evalTokens, lemma_beq_decide]

/-- a spec the grammar rejects altogether is compared with the value as it stands -/
theorem unparsable_spec_is_equality (v spec : Str) (h : parse spec = none) :
    matchSpec v spec = .ok (decide (spec = v)) := by
  simp [matchSpec, h, evalTokens, lemma_beq_decide]

/-- a parse with more than one token begins with a key of `op_methods`, so only the operator's method
    can raise; a parse with one token or none is a comparison of strings -/
theorem lemma_matchSpec_err {v spec : Str} {e : Err} (h : matchSpec v spec = .err e) :
    e = .valueError ∨ e = .typeError := by
  unfold matchSpec at h
  cases hp : parse spec with
  | none => simp [hp, evalTokens] at h
  | some t =>
    rcases parsed_operator_has_method spec t hp with ⟨a, rfl⟩ | ⟨op, a, as, rfl, hk⟩
    · simp [hp, evalTokens] at h
    · obtain ⟨k, hk'⟩ := Option.isSome_iff_exists.mp hk
      simp only [hp, evalTokens, hk'] at h
      exact lemma_applyOp_err h

/-- `match` never fails with `KeyError` / `IndexError`: every operator the grammar can produce has
    an entry in `op_methods` -/
theorem match_never_key_error (v spec : Str) :
    matchSpec v spec ≠ .err .keyError ∧ matchSpec v spec ≠ .err .indexError := by
  constructor <;> intro h <;> rcases lemma_matchSpec_err h with h | h <;> cases h

/-! ### non-vacuity: concrete instances of the hypotheses and of the statements -/

example : UnaryShape [] [' '] ['4'] [] := by
  refine ⟨?_, ?_, ?_, ⟨?_, ?_, ?_⟩, ?_⟩ <;> decide +kernel
example : UnaryShape [' ', '\t'] [' ', ' '] ['1', '0', '.', '5'] [' ', 'x'] := by
  refine ⟨?_, ?_, ?_, ⟨?_, ?_, ?_⟩, ?_⟩ <;> decide +kernel
example : IsAtom ['a', 'e', 's'] ∧ IsAtom ['x', '>', '='] ∧ ¬ IsAtom ['>', '=', 'x'] ∧ ¬ IsAtom ['s', '<', '1'] := by
  refine ⟨⟨?_, ?_, ?_⟩, ⟨?_, ?_, ?_⟩, ?_, ?_⟩ <;> first | decide | (intro h; have := h.noop; revert this; decide)
example : Digits ['1', '0'] ∧ Digits [] ∧ decText true ['1', '0'] ['5', '0'] = "-10.50".toList
    ∧ decValue true ['1', '0'] ['5', '0'] = -21 / 2 ∧ decText false ['7'] [] = ['7'] := by
  refine ⟨by decide, by decide, by rw [String.toList_ofList]; decide, by decide +kernel, by decide⟩
example : pyFloat ['5'] = .num (.fin 5) ∧ pyFloat ['-', '1', '0', '.', '5', '0'] = .num (.fin (-21 / 2))
    ∧ pyFloat ['x'] = .valueError := by decide +kernel
-- a literal unifies with `String.ofList _`; this spares the kernel decoding it
example : pyLiteral "['aes', 'mmx', 3]".toList
    = some (.list [.str ['a', 'e', 's'], .str ['m', 'm', 'x'], .num 3]) := by
  repeat rw [String.toList_ofList]
  decide +kernel
example : pyLiteral "12.5".toList = some (.item (.num (25 / 2))) := by
  repeat rw [String.toList_ofList]
  decide +kernel
-- every spelling `float()` accepts for a number is read as that number (leading / trailing dot, exponent,
-- plus sign, leading zeros, surrounding blanks), on the value side and on the operand side
example : pyFloat ".5".toList = .num (.fin (1 / 2)) ∧ pyFloat "5.".toList = .num (.fin 5)
    ∧ pyFloat "1e3".toList = .num (.fin 1000) ∧ pyFloat "2.5E-1".toList = .num (.fin (1 / 4))
    ∧ pyFloat "-.25".toList = .num (.fin (-1 / 4)) ∧ pyFloat "+01".toList = .num (.fin 1)
    ∧ pyFloat " 5\n".toList = .num (.fin 5) ∧ pyFloat "1_0".toList = .num (.fin 10) := by
  repeat rw [String.toList_ofList]
  decide +kernel
example : matchSpec ".5".toList "< 1".toList = .ok true ∧ matchSpec "2.5".toList "> .5".toList = .ok true
    ∧ matchSpec "1e3".toList ">= 500".toList = .ok true ∧ matchSpec "999".toList "< 1e3".toList = .ok true
    ∧ matchSpec "5.".toList "== 5".toList = .ok true ∧ matchSpec "-.25".toList "= -2.5E-1".toList = .ok true
    ∧ matchSpec "1e3".toList "<range-in> [ 1e2 1.e3 )".toList = .ok false := by
  repeat rw [String.toList_ofList]
  decide +kernel
example : Alternatives [([' '], [' '], ['b']), (['\n'], [], ['c'])] := by
  intro a ha
  simp only [List.mem_cons, List.not_mem_nil, or_false] at ha
  rcases ha with rfl | rfl <;> refine ⟨?_, ?_, ?_, ⟨?_, ?_, ?_⟩⟩ <;> decide +kernel
example : Operands [([' '], ['[']), ([' '], ['1']), ([' '], ['2']), ([' '], [')'])] := by
  intro a ha
  simp only [List.mem_cons, List.not_mem_nil, or_false] at ha
  rcases ha with rfl | rfl | rfl | rfl <;> refine ⟨?_, ?_, ⟨?_, ?_, ?_⟩⟩ <;> decide +kernel
example : matchSpec "5".toList ">= 4".toList = .ok true ∧ matchSpec "5".toList "= 6".toList = .ok false
    ∧ matchSpec "5".toList "<= 5.0".toList = .ok true ∧ matchSpec "5".toList "< 5".toList = .ok false := by
  repeat rw [String.toList_ofList]
  decide +kernel
example : matchSpec "abc".toList "s<= abd".toList = .ok true ∧ matchSpec "abc".toList "<in> bc".toList = .ok true
    ∧ matchSpec "b".toList "<or> a <or> b".toList = .ok true
    ∧ matchSpec "['aes', 'mmx']".toList "<all-in> aes mmx".toList = .ok true
    ∧ matchSpec "['aes', 'mmx']".toList "<all-in> aes sse".toList = .ok false := by
  repeat rw [String.toList_ofList]
  decide +kernel
example : matchSpec "10".toList "<range-in> [ 10 20 ]".toList = .ok true
    ∧ matchSpec "10".toList "<range-in> ( 10 20 ]".toList = .ok false
    ∧ matchSpec "20".toList "<range-in> ( 10 20 ]".toList = .ok true
    ∧ matchSpec "20".toList "<range-in> ( 10 20 )".toList = .ok false
    ∧ matchSpec "15".toList "<range-in> ( 20 10 )".toList = .err .typeError := by
  repeat rw [String.toList_ofList]
  decide +kernel
-- the pyparsing behaviours recorded in DESIGN.md §5-C18
example : parse "<or> a b".toList = some ["<or>".toList, "a".toList]            -- prefix parse
    ∧ parse "<or>".toList = some ["<".toList, "or>".toList]                     -- `<or>` alone
    ∧ parse ">=5".toList = some [">=".toList, "5".toList]                       -- atom glued to the operator
    ∧ parse "<=5".toList = some ["<=".toList, "5".toList]
    ∧ parse "s<=x".toList = some ["s<=".toList, "x".toList]
    ∧ parse "<in>".toList = none ∧ parse "=".toList = none ∧ parse "> =5".toList = none
    ∧ parse "abc def".toList = some ["abc".toList] := by
  repeat rw [String.toList_ofList]
  decide +kernel

end Oslo.Specs
