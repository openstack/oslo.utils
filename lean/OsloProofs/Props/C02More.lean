/-
C02 — more byte-level acceptance characterisations (LUKS, VMDK).
-/
import OsloProofs.Props.C02
namespace Oslo.Insp

/-- the LUKS acceptance condition on the header bytes `d = stream[0:592]` -/
def LuksSafe (d : Bytes) : Prop :=
  d.length = 592 ∧ slice d 0 6 = [0x4c, 0x55, 0x4b, 0x53, 0xba, 0xbe] ∧ beNat (slice d 6 8) = 1

/-- **luks_accept_iff** — for every stream and chunking, the LUKS safety check returns normally iff the
    592-byte header is present, starts with the LUKS magic and carries version 1 -/
theorem luks_accept_iff (s0 : Insp) (h0 : Insp.init .luks = some s0) (chunks : List Bytes) :
    safetyCheck (runChunks s0 chunks).1 = .ok ↔ LuksSafe (sliceOf chunks.flatten 0 592) := by
  rw [run_plain_eq_spec .luks rfl s0 h0, lemma_init_eq h0, safety_ok_iff, LuksSafe]
  generalize hd : sliceOf chunks.flatten 0 592 = d
  have hr : Insp.region ⟨.luks, chunks.flatten.length, [("header", ⟨0, 0, 592, none, d, false, false⟩)], 1, true,
      ["version"], none, none, formatNotFound⟩ "header" = .ok ⟨0, 0, 592, none, d, false, false⟩ := rfl
  simp only [Fmt.initRegions, Gen.luks_regions, specRegions, hd, Fmt.initChecks, Gen.luks_checks, List.length_cons,
    List.length_nil, Nat.zero_add, List.mem_singleton, forall_eq, Insp.complete, List.all_cons, List.all_nil,
    Bool.and_true, lemma_complete_plain, decide_eq_true_eq]
  by_cases hl : d.length = 592
  · have h108 : (slice d 0 108).length = 108 := by rw [lemma_slice_length]; omega
    rw [lemma_formatMatch_luks _ rfl, hr, runCheck, lemma_ofExcept_pass]
    · simp only [luksCheckVersion, luksHeader, hr, h108, bind, Except.bind, pure, Except.pure, ne_eq,
        not_true_eq_false, if_false, lemma_slice_slice0 d 108 6 8 (by omega), Except.ok.injEq, beq_iff_eq, hl,
        true_and]
    · rfl
  · have : ¬ 592 = d.length := fun h => hl h.symm
    simp only [hl, this, false_and]

/-- a LUKS header of any version other than 1 is never accepted -/
theorem luks_rejects_version (s0 : Insp) (h0 : Insp.init .luks = some s0) (chunks : List Bytes)
    (h : beNat (slice (sliceOf chunks.flatten 0 592) 6 8) ≠ 1) :
    safetyCheck (runChunks s0 chunks).1 ≠ .ok := by
  rw [Ne, luks_accept_iff s0 h0]
  rintro ⟨_, _, hv⟩
  exact h hv

/-- **vmdk_accept_imp** — in *any* VMDK inspector state (any stream, any chunking, either mode), the
    safety check returning normally implies: a descriptor was parsed and is non-empty; its createType
    is monolithicSparse or streamOptimized; every line (stripped) is blank, a comment, a ddb line, a
    single-word header field or an extent line; there is at least one extent line and none contains
    '/'.  (Acceptance of the *right* descriptor bytes is the chunk-independence question of C01; in
    text-descriptor mode that fails — known finding KF_F1.) -/
theorem vmdk_accept_imp (s : Insp) (hf : s.fmt = .vmdk) (hc : "descriptor" ∈ s.checks)
    (h : safetyCheck s = .ok) :
    ∃ t, s.descText = some t ∧ t ≠ [] ∧ s.vmdkType ∈ sparseTypes ∧
      (∀ l ∈ (splitOn 0x0a t).map strip, classifyLine l ≠ .bad) ∧
      (∃ l ∈ (splitOn 0x0a t).map strip, classifyLine l = .extent) ∧
      (∀ l ∈ (splitOn 0x0a t).map strip, classifyLine l = .extent → l.contains 0x2f = false) := by
  have hp := (safety_ok_imp s h).2.2 "descriptor" hc
  rw [runCheck, lemma_ofExcept_pass] at hp
  · have hd : vmdkCheckDescriptor s = true := Except.ok.inj hp
    unfold vmdkCheckDescriptor at hd
    cases ht : s.descText <;> rw [ht] at hd
    · cases hd
    · rename_i t
      dsimp only at hd
      obtain ⟨hne, hd⟩ := lemma_ite_false hd
      obtain ⟨hty, hd⟩ := lemma_ite_false hd
      obtain ⟨hbad, hd⟩ := lemma_ite_false hd
      obtain ⟨hslash, hd⟩ := lemma_ite_false hd
      refine ⟨t, rfl, by simpa using hne, by simpa using hty, fun l hl hb => hbad ?_, ?_, fun l hl he => ?_⟩
      · simp only [List.contains_eq_mem, decide_eq_true_eq]
        exact List.mem_map.mpr ⟨l, hl, hb⟩
      · simp only [Bool.not_eq_true', List.isEmpty_eq_false_iff] at hd
        obtain ⟨l, hl⟩ := List.exists_mem_of_ne_nil _ hd
        simp only [List.mem_filter, beq_iff_eq] at hl
        exact ⟨l, hl.1, hl.2⟩
      · simp only [List.any_eq_true, List.mem_filter, beq_iff_eq, not_exists, not_and, and_imp,
          Bool.not_eq_true] at hslash
        exact hslash l hl he
  · exact hf

/-- when the header announced a footer, acceptance also implies the footer check passed -/
theorem vmdk_accept_imp_footer (s : Insp) (hf : s.fmt = .vmdk) (hc : "footer" ∈ s.checks)
    (h : safetyCheck s = .ok) : vmdkCheckFooter s = .ok true := by
  have hp := (safety_ok_imp s h).2.2 "footer" hc
  rw [runCheck, lemma_ofExcept_pass] at hp
  · exact hp
  · exact hf

/-- what a passing footer check means: the footer repeats the header's signature, version and
    descriptor location and does not point to yet another footer -/
theorem vmdk_footer_ok_imp (s : Insp) (h : vmdkCheckFooter s = .ok true) :
    ∃ hr fr hh fh, s.region "header" = .ok hr ∧ s.region "footer" = .ok fr ∧
      parseSparseHeader hr.data 0 = .ok hh ∧ parseSparseHeader fr.data 512 = .ok fh ∧
      hh.sig = fh.sig ∧ hh.ver = fh.ver ∧ hh.descSec = fh.descSec ∧ hh.descNum = fh.descNum ∧
      fh.gdOffset ≠ Gen.vmdkGdAtEnd := by
  unfold vmdkCheckFooter at h
  obtain ⟨hr, h1, h⟩ := lemma_bind_eq_ok h
  obtain ⟨fr, h2, h⟩ := lemma_bind_eq_ok h
  obtain ⟨hh, h3, h⟩ := lemma_bind_eq_ok h
  obtain ⟨fh, h4, h⟩ := lemma_bind_eq_ok h
  obtain ⟨a1, h⟩ := (lemma_guard_false _ _).mp h
  obtain ⟨a2, h⟩ := (lemma_guard_false _ _).mp h
  obtain ⟨a3, h⟩ := (lemma_guard_false _ _).mp h
  obtain ⟨a5, h⟩ := (lemma_guard_false _ _).mp h
  simp only [Bool.or_eq_true, decide_eq_true_eq, ne_eq, not_or, Decidable.not_not] at a1 a2 a3
  exact ⟨hr, fr, hh, fh, h1, h2, h3, h4, a1, a2, a3.1, a3.2, a5⟩

end Oslo.Insp
