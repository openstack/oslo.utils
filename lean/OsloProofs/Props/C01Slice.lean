/-
C01, second sentence — "whatever an inspector retains for a region is exactly the stream's
bytes at that region's offsets" — for ALL ten formats (VHDX and VMDK included), every stream,
every chunking and every prefix of the feed, under the forward proviso: every plain region
created while streaming starts at or after the start of the chunk that created it (`fwdFeed`).
Without the proviso the statement is false (known finding KF_D7: a VHDX metadata pointer that
points below the position already streamed).  The proviso is a condition on the run, not on the
stream: `fwdFeed` follows `feed` step by step.  It is discharged here for the eight formats with
fixed regions (`fwdFeed_static`); nothing here derives it for VHDX or VMDK from a condition on the
bytes, so for those two the theorems are only as good as the hypothesis.
-/
import OsloProofs.Lemmas.SliceEngine
import OsloProofs.Props.C05
namespace Oslo.Insp

/-- a freshly initialised inspector satisfies the between-chunks invariant for the empty prefix -/
theorem init_streamInv (f : Fmt) (s0 : Insp) (h0 : Insp.init f = some s0) : StreamInv s0 [] := by
  have hs := init_inv f s0 h0
  have hb := lemma_init_bnd h0
  rw [lemma_init_eq h0] at hs hb ⊢
  refine ⟨hs, hb, rfl, fun x hx => ?_⟩
  apply lemma_regInv_empty _ _ (lemma_mkRegions_fresh f.initRegions 0 x hx).2.1
  cases hE : x.2.isEnd
  · exact Or.inr ⟨rfl, Nat.zero_le _⟩
  · exact Or.inl ⟨rfl, ((hs.each x hx).2.2.2 hE).1⟩

/-- **retained_is_stream_slice_partial** — for every format, stream and chunking fed without error,
    every region of the resulting inspector holds exactly the stream's bytes at the offset it
    reports: `data = stream[offset : offset + len(data)]` (end-capture regions included: their
    reported offset is where the retained suffix starts).  Hypothesis `fwdFeed`: each plain region
    created by post-processing during the run starts at or after the start of the chunk that
    created it.  Missing: runs violating the proviso, where the statement is false (KF_D7). -/
theorem retained_is_stream_slice_partial (f : Fmt) (s0 : Insp) (h0 : Insp.init f = some s0)
    (chunks : List Bytes) (hfwd : fwdFeed s0 chunks []) (hok : (feed s0 chunks).2 = none) :
    ∀ x ∈ (feed s0 chunks).1.regions,
      x.2.data = sliceOf chunks.flatten x.2.offset x.2.data.length := by
  have := lemma_feed_slice s0 chunks [] (init_streamInv f s0 h0) hfwd hok
  simp only [List.nil_append] at this
  intro x hx
  exact lemma_regInv_slice _ _ (this.regs x hx)

/-- … and the inspector has counted exactly the bytes of the stream -/
theorem total_is_stream_length_partial (f : Fmt) (s0 : Insp) (h0 : Insp.init f = some s0)
    (chunks : List Bytes) (hfwd : fwdFeed s0 chunks []) (hok : (feed s0 chunks).2 = none) :
    (feed s0 chunks).1.total = chunks.flatten.length := by
  have := lemma_feed_slice s0 chunks [] (init_streamInv f s0 h0) hfwd hok
  simpa using this.total

/-- the same at the chunk on which an inspector raises (the state the wrapper keeps): every region
    still holds stream bytes at its offset, given the proviso up to that chunk -/
theorem retained_is_stream_slice_at_error_partial (s : Insp) (p c : Bytes) (h : StreamInv s p)
    (hf : fwdEat s c p) :
    ∀ x ∈ (eatChunk s c).1.regions, x.2.data = sliceOf (p ++ c) x.2.offset x.2.data.length :=
  (lemma_eat_slice s p c h hf).1

/-- the proviso holds automatically for the formats that never create regions while streaming -/
theorem fwdEat_static (s : Insp) (p c : Bytes) (hst : s.fmt.static = true) (h : StreamInv s p) :
    fwdEat s c p := by
  unfold fwdEat
  split
  · trivial
  · obtain ⟨hmid1, hall1⟩ := lemma_first_capture s p c h
    have hpp := lemma_postProcess_static (({ s with total := s.total + c.length } : Insp).captureAll c []) hst
    dsimp only
    constructor
    · intro x hx hge _
      rw [hpp] at hx
      exact absurd (hmid1.bnd x hx) (Nat.not_lt.mpr hge)
    · rw [hpp]
      exact lemma_fwdFollow_none 8 _ c _ p hall1

theorem fwdFeed_static (chunks : List Bytes) : ∀ (s : Insp) (p : Bytes), s.fmt.static = true →
    StreamInv s p → fwdFeed s chunks p := by
  intro s p hst h
  fun_induction fwdFeed s chunks p with
  | case1 => trivial
  | case2 s c cs p ih =>
    have hfe := fwdEat_static s p c hst h
    have hstream := (lemma_eat_slice s p c h hfe).2
    have hf1 := lemma_eatChunk_fmt s c
    refine ⟨hfe, ?_⟩
    split
    · trivial
    · next s1 he =>
      rw [he] at hstream hf1
      exact ih s1 (hf1 ▸ hst) (hstream rfl)

/-- **retained_is_stream_slice (static formats, from the general theorem)** — non-vacuity of the
    proviso: for the eight formats with fixed regions it holds for every stream and chunking -/
theorem retained_is_stream_slice_static_general (f : Fmt) (hf : f.static = true) (s0 : Insp)
    (h0 : Insp.init f = some s0) (chunks : List Bytes) (hok : (feed s0 chunks).2 = none) :
    ∀ x ∈ (feed s0 chunks).1.regions,
      x.2.data = sliceOf chunks.flatten x.2.offset x.2.data.length := by
  have hfmt : s0.fmt = f := by rw [lemma_init_eq h0]
  exact retained_is_stream_slice_partial f s0 h0 chunks
    (fwdFeed_static chunks s0 [] (by rw [hfmt]; exact hf) (init_streamInv f s0 h0)) hok

end Oslo.Insp
