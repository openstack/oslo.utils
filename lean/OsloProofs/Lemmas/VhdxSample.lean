/-
VHDX: a concrete minimal well-formed image (262 216 bytes) used as the non-vacuity witness of the
VHDX theorems: the `vhdxfile` signature, zeros up to 192 KiB, a one-entry region table pointing to a metadata region at
256 KiB, a one-entry metadata table whose size item (8 bytes) follows the table directly.
-/
import OsloProofs.Lemmas.VhdxImage
namespace Oslo.Insp

/-- 16-byte region-table header (`regi`, checksum, count = 1, reserved) + one 32-byte entry:
    metadata GUID, file offset 0x40000 = 256 KiB, length, required -/
def sampleRegionTable : Bytes :=
  [0x72, 0x65, 0x67, 0x69, 0, 0, 0, 0, 1, 0, 0, 0, 0, 0, 0, 0] ++
  Gen.vhdxMetaRegionGuid ++ [0, 0, 4, 0, 0, 0, 0, 0] ++ [0, 0, 1, 0, 1, 0, 0, 0]

/-- 32-byte metadata-table header (`metadata`, reserved, count = 1, reserved) + one 32-byte entry:
    virtual-disk-size GUID, item offset 64, item length 8, flags -/
def sampleMetaTable : Bytes :=
  ascii "metadata" ++ [0, 0, 1, 0] ++ List.replicate 20 0 ++
  Gen.vhdxVdsGuid ++ [64, 0, 0, 0] ++ [8, 0, 0, 0] ++ List.replicate 8 0

/-- the image declaring the virtual size whose 8 little-endian bytes are `sz` -/
def vhdxSample (sz : Bytes) : Bytes :=
  (ascii "vhdxfile" ++ zeros 196600) ++ (sampleRegionTable ++ (zeros 65488 ++ (sampleMetaTable ++ sz)))

theorem lemma_zeros_length (n : Nat) : (zeros n).length = n := List.length_replicate

theorem lemma_magic_length : (ascii "vhdxfile").length = 8 := by
  rw [ascii_ofList]; rfl

/-- one conjunction per table: all that is read in a table comes from one evaluation of it -/
theorem lemma_sampleRegionTable :
    sampleRegionTable.length = 48 ∧ leNat (slice sampleRegionTable 0 4) = 0x69676572 ∧
    leNat (slice sampleRegionTable 8 12) = 1 ∧ slice sampleRegionTable 16 32 = Gen.vhdxMetaRegionGuid ∧
    leNat (slice sampleRegionTable 32 40) = 262144 := by
  decide

theorem lemma_sampleMetaTable :
    sampleMetaTable.length = 64 ∧ slice sampleMetaTable 0 8 = ascii "metadata" ∧
    leNat (slice sampleMetaTable 10 12) = 1 ∧ slice sampleMetaTable 32 48 = Gen.vhdxVdsGuid ∧
    leNat (slice sampleMetaTable 48 52) = 64 ∧ leNat (slice sampleMetaTable 52 56) = 8 := by
  unfold sampleMetaTable
  rw [ascii_ofList]
  decide

theorem lemma_sample_head : (ascii "vhdxfile" ++ zeros 196600).length = 196608 := by
  rw [List.length_append, lemma_zeros_length, lemma_magic_length]

theorem lemma_sample_region (sz : Bytes) (a e : Nat) (he : e ≤ 48) :
    slice (vhdxSample sz) (196608 + a) (196608 + e) = slice sampleRegionTable a e := by
  unfold vhdxSample
  rw [lemma_slice_append_right _ _ 196608 a e lemma_sample_head,
    lemma_slice_prefix (List.prefix_append _ _) a e (lemma_sampleRegionTable.1 ▸ he)]

theorem lemma_sample_meta (sz : Bytes) (a e : Nat) (he : e ≤ 64) :
    slice (vhdxSample sz) (262144 + a) (262144 + e) = slice sampleMetaTable a e := by
  have e1 : vhdxSample sz =
      ((ascii "vhdxfile" ++ zeros 196600) ++ (sampleRegionTable ++ zeros 65488)) ++ (sampleMetaTable ++ sz) := by
    simp only [vhdxSample, List.append_assoc]
  rw [e1, lemma_slice_append_right _ _ 262144 a e (by
      rw [List.length_append, lemma_sample_head, List.length_append, lemma_sampleRegionTable.1, lemma_zeros_length]),
    lemma_slice_prefix (List.prefix_append _ _) a e (lemma_sampleMetaTable.1 ▸ he)]

theorem lemma_sample_length (sz : Bytes) (hs : sz.length = 8) : (vhdxSample sz).length = 262216 := by
  simp only [vhdxSample, List.length_append, lemma_zeros_length, lemma_sampleRegionTable.1, lemma_sampleMetaTable.1, hs,
    lemma_magic_length]

theorem lemma_sample_size (sz : Bytes) (hs : sz.length = 8) :
    slice (vhdxSample sz) (262144 + 64) (262144 + 64 + 8) = sz := by
  have e1 : vhdxSample sz =
      ((ascii "vhdxfile" ++ zeros 196600) ++ (sampleRegionTable ++ (zeros 65488 ++ sampleMetaTable))) ++ sz := by
    simp only [vhdxSample, List.append_assoc]
  rw [e1]
  refine (lemma_slice_append_right _ sz 262208 0 8 ?_).trans ?_
  · simp only [List.length_append, lemma_zeros_length, lemma_sampleRegionTable.1, lemma_sampleMetaTable.1,
      lemma_magic_length]
  · rw [slice, ← hs, List.take_length, List.drop_zero]

theorem lemma_sample_magic (sz : Bytes) : startsWith (vhdxSample sz) (ascii "vhdxfile") = true := by
  simp only [startsWith, vhdxSample, List.append_assoc, List.take_left', BEq.rfl]

theorem lemma_sample_image (sz : Bytes) (hs : sz.length = 8) : VhdxImage (vhdxSample sz) 1 0 262144 1 0 64 where
  regi := (congrArg leNat (lemma_sample_region sz 0 4 (by decide))).trans lemma_sampleRegionTable.2.1
  rcount := (congrArg leNat (lemma_sample_region sz 8 12 (by decide))).trans lemma_sampleRegionTable.2.2.1
  rc_lt := by decide
  j_lt := by decide
  rbefore := fun k hk => absurd hk (Nat.not_lt_zero k)
  rguid := (lemma_sample_region sz 16 32 (by decide)).trans lemma_sampleRegionTable.2.2.2.1
  roff := (congrArg leNat (lemma_sample_region sz 32 40 (by decide))).trans lemma_sampleRegionTable.2.2.2.2
  mo_ge := Nat.le_refl _
  msig := (lemma_sample_meta sz 0 8 (by decide)).trans lemma_sampleMetaTable.2.1
  mcount := (congrArg leNat (lemma_sample_meta sz 10 12 (by decide))).trans lemma_sampleMetaTable.2.2.1
  mc_lt := by decide
  i_lt := by decide
  mbefore := fun k hk => absurd hk (Nat.not_lt_zero k)
  mguid := (lemma_sample_meta sz 32 48 (by decide)).trans lemma_sampleMetaTable.2.2.2.1
  mioff := (congrArg leNat (lemma_sample_meta sz 48 52 (by decide))).trans lemma_sampleMetaTable.2.2.2.2.1
  milen := (congrArg leNat (lemma_sample_meta sz 52 56 (by decide))).trans lemma_sampleMetaTable.2.2.2.2.2
  ioff_ge := by decide
  hlen := Nat.le_of_eq (lemma_sample_length sz hs).symm

end Oslo.Insp
