/-
The per-inspector invariant behind "a decision is not revised" for all ten formats, and its
consequences: it survives every `eat_chunk` that returns normally, and a chunk from which no
region can take anything is ignored whatever its bytes are — only `_total_count` moves.  In
particular a complete inspector ignores any further chunk.  Every freshly initialised inspector
satisfies the invariant, hence so does every state reached from one by chunks that were
processed normally.  One ingredient is proved first: `eat_chunk`, whether or not it raises,
keeps the `finished` flag and closes no end-capture region (`endDone` is set only by `finish()`).
-/
import OsloProofs.Lemmas.StableFix
import OsloProofs.Lemmas.StableAux
import OsloProofs.Lemmas.Evolves
import OsloProofs.Lemmas.Engine
import OsloProofs.Lemmas.LocalityDefs
namespace Oslo.Insp

/-- no end-capture region has been closed (only `finish()` closes one) -/
def Quiet (s : Insp) : Prop := ∀ p ∈ s.regions, p.2.endDone = false

/-- what every action of `eat_chunk` leaves alone -/
structure Keep (s s' : Insp) : Prop where
  fin : s'.finished = s.finished
  quiet : Quiet s → Quiet s'

theorem lemma_keep_refl (s : Insp) : Keep s s := ⟨rfl, fun h => h⟩

theorem lemma_keep_trans {a b c : Insp} (h1 : Keep a b) (h2 : Keep b c) : Keep a c :=
  ⟨h2.fin.trans h1.fin, fun h => h2.quiet (h1.quiet h)⟩

theorem PP.keep {f : Fmt} {s s' : Insp} (h : PP f s s') : Keep s s' := by
  induction h with
  | refl s => exact lemma_keep_refl s
  | trans _ _ ih1 ih2 => exact lemma_keep_trans ih1 ih2
  | new hn =>
    rw [(lemma_newRegion_ok hn).2]
    refine ⟨rfl, fun hq p hp => ?_⟩
    rcases List.mem_append.mp hp with hp | hp
    · exact hq p hp
    · rw [List.mem_singleton.mp hp]
  | delete hd =>
    rw [lemma_deleteRegion_ok hd]
    exact ⟨rfl, fun hq p hp => hq p (List.mem_filter.mp hp).1⟩
  | trunc s hn =>
    refine ⟨rfl, fun hq p hp => ?_⟩
    simp only [Insp.updRegion, List.mem_map] at hp
    obtain ⟨y, hy, rfl⟩ := hp
    split <;> exact hq y hy
  | check s k => exact ⟨rfl, fun hq => hq⟩

theorem Acts.keep {f : Fmt} {s s' : Insp} (h : Acts f s s') : Keep s s' := by
  induction h with
  | refl s => exact lemma_keep_refl s
  | trans _ _ ih1 ih2 => exact lemma_keep_trans ih1 ih2
  | pp h => exact h.keep
  | capture s c only =>
    refine ⟨rfl, fun hq p hp => ?_⟩
    simp only [Insp.captureAll, List.mem_map] at hp
    obtain ⟨y, hy, rfl⟩ := hp
    split
    · exact (lemma_capture_endDone _ _ _).trans (hq y hy)
    · exact hq y hy
  | aux => exact ⟨rfl, fun hq => hq⟩

theorem lemma_eatChunk_keep (s : Insp) (c : Bytes) : Keep s (eatChunk s c).1 :=
  (lemma_eatChunk_acts s c).keep

/-- an un-finished inspector of any format at a chunk boundary (`Good` of Props/C03Stable is its
    counterpart for the fixed-region formats only) -/
structure Good2 (s : Insp) : Prop where
  unfinished : s.finished = false
  quiet : Quiet s
  sinv : SInv s
  bnd : Bnd s
  fix : postProcess s = (s, none)

/-- the last step of a loop that ends normally created nothing, since every identity has been seen -/
theorem lemma_followUp_fix (fuel : Nat) (s : Insp) (c : Bytes) (seen : List Nat)
    (hi : SInv s) (hb : Bnd s) (hseen : ∀ i ∈ seen, i < s.nextRid)
    (hfix : (∀ p ∈ s.regions, p.2.rid ∈ seen) → postProcess s = (s, none))
    (h : (followUp fuel s c seen).2 = none) :
    postProcess (followUp fuel s c seen).1 = ((followUp fuel s c seen).1, none) := by
  fun_induction followUp fuel s c seen with
  | case1 | case4 => cases h   -- out of fuel, `post_process` raised
  | case2 s c seen hany => exact hfix ((lemma_fresh_any_iff s seen).mp hany)
  | case3 fuel s c seen fresh hemp => exact hfix ((lemma_fresh_empty_iff s seen).mp hemp)
  | case5 fuel s c seen fresh _ s1 s2 hpp ih =>
    have hA := lemma_round_acts hpp
    obtain ⟨hb2, hnext⟩ := hA.bnd hi hb
    have hseen' : ∀ i ∈ seen ++ fresh.map (·.2.rid), i < s.nextRid := by
      intro i hi
      rcases List.mem_append.mp hi with hi | hi
      · exact hseen i hi
      · obtain ⟨y, hy, rfl⟩ := List.mem_map.mp hi
        exact hb y (List.mem_filter.mp hy).1
    refine ih (hA.sinv hi) hb2 (fun i hi => Nat.lt_of_lt_of_le (hseen' i hi) hnext) (fun hall => ?_) h
    exact lemma_pp_fix hpp (fun p hp => Nat.ne_of_lt (hseen' _ (hall p hp)))

theorem lemma_eat_good (s : Insp) (c : Bytes) (hg : Good2 s) (h : (eatChunk s c).2 = none) :
    Good2 (eatChunk s c).1 := by
  have hA := lemma_eatChunk_acts s c
  refine ⟨hA.keep.fin.trans hg.unfinished, hA.keep.quiet hg.quiet, hA.sinv hg.sinv,
    (hA.bnd hg.sinv hg.bnd).1, ?_⟩
  revert h
  fun_cases eatChunk s c
  case case4 s3 h2 s4 h3 _ =>   -- the only branch that returns normally
    intro _
    have hA3 : Acts s.fmt s s3 :=
      (Acts.aux s (s.total + c.length) s.qcowInfo s.descText s.vmdkType).trans (lemma_round_acts h2)
    obtain ⟨hb3, hnext⟩ := hA3.bnd hg.sinv hg.bnd
    have hseen : ∀ i ∈ s.regions.map (·.2.rid), i < s.nextRid := by
      intro i hi
      obtain ⟨y, hy, rfl⟩ := List.mem_map.mp hi
      exact hg.bnd y hy
    have h4 := lemma_followUp_fix 8 s3 c _ (hA3.sinv hg.sinv) hb3
      (fun i hi => Nat.lt_of_lt_of_le (hseen i hi) hnext)
      (fun hall => lemma_pp_fix h2 (fun p hp => Nat.ne_of_lt (hseen _ (hall p hp))))
    rw [h3] at h4
    obtain ⟨q, d, v, h5⟩ := lemma_runCallbacks_aux s4 ((s4.regions.filter (fun p => p.2.complete &&
      !((s.regions.filter (·.2.complete)).map (·.2.rid)).contains p.2.rid)).map (·.1))
    rw [h5]
    exact lemma_setAux_fix s4 _ q d v (h4 rfl)
  all_goals exact fun h => nomatch h

theorem lemma_regionSkips_iff (r : Region) (total n : Nat) :
    regionSkips r total n = true ↔
      r.isEnd = false ∧ (r.complete = true ∨ n = 0 ∨ total + n ≤ r.offset ∨ r.offset + r.length < total) := by
  simp only [regionSkips, Bool.and_eq_true, Bool.not_eq_true', Bool.or_eq_true, decide_eq_true_eq, or_assoc]

theorem lemma_capture_skips (r : Region) (c : Bytes) (total : Nat) (hlen : r.data.length ≤ r.length)
    (hE : r.isEnd = false)
    (h : c.length = 0 ∨ total + c.length ≤ r.offset ∨ r.offset + r.length < total) :
    r.capture c (total + c.length) = r := by
  unfold Region.capture
  rw [if_neg (by rw [hE]; exact Bool.false_ne_true)]
  simp only [Nat.add_sub_cancel]
  split
  · -- the chunk overlaps the window only at its edge: nothing is left of it after the lead gap
    have hd : c.drop (if total < r.offset then r.offset - total else 0) = [] := by
      apply List.drop_eq_nil_of_le
      split <;> omega
    rw [hd, List.append_nil, List.take_of_length_le hlen]
  · rfl

theorem lemma_stepRegion_skips (r : Region) (c : Bytes) (total : Nat) (hlen : r.data.length ≤ r.length)
    (h : regionSkips r total c.length = true) : stepRegion c (total + c.length) r = r := by
  obtain ⟨hE, h⟩ := (lemma_regionSkips_iff r total c.length).mp h
  unfold stepRegion
  split
  · rcases h with hc | h
    · rename_i hcond
      rw [hE, hc] at hcond
      simp at hcond
    · exact lemma_capture_skips r c total hlen hE h
  · rfl

theorem lemma_captureAll_skippable (s : Insp) (c : Bytes) (hs : SInv s) (h : skippable s c.length = true) :
    ({ s with total := s.total + c.length } : Insp).captureAll c [] = { s with total := s.total + c.length } := by
  rw [lemma_captureAll_nil]
  have hmap : s.regions.map (fun p => (p.1, stepRegion c (s.total + c.length) p.2)) = s.regions := by
    have : ∀ p ∈ s.regions, (p.1, stepRegion c (s.total + c.length) p.2) = p := by
      intro p hp
      simp only [skippable, List.all_eq_true] at h
      rw [lemma_stepRegion_skips p.2 c s.total (hs.each p hp).2.1 (h p hp)]
    exact (List.map_congr_left this).trans (List.map_id' _)
  show ({ s with total := s.total + c.length,
                 regions := s.regions.map (fun p => (p.1, stepRegion c (s.total + c.length) p.2)) } : Insp) = _
  rw [hmap]

theorem lemma_advance_good (s : Insp) (n : Nat) (hg : Good2 s) : Good2 (s.advance n) :=
  ⟨hg.unfinished, hg.quiet, hg.sinv, hg.bnd,
   lemma_setAux_fix s (s.total + n) s.qcowInfo s.descText s.vmdkType hg.fix⟩

/-- post-processing sees the same regions again, no region is new, none is newly complete -/
theorem lemma_eat_no_capture (s : Insp) (c : Bytes) (hg : Good2 s)
    (hcap : ({ s with total := s.total + c.length } : Insp).captureAll c [] =
      { s with total := s.total + c.length }) :
    eatChunk s c = ({ s with total := s.total + c.length }, none) := by
  have hac : afterCapture s c = { s with total := s.total + c.length } :=
    (lemma_captureAll_nil _ c).symm.trans hcap
  rw [lemma_eatChunk_of_fix s c hg.unfinished (by rw [hac]; exact (lemma_advance_good s c.length hg).fix), hac]
  have hnewly : (s.regions.filter (fun p => p.2.complete &&
      !((s.regions.filter (·.2.complete)).map (·.2.rid)).contains p.2.rid)) = [] := by
    rw [List.filter_eq_nil_iff]
    intro p hp
    cases hcp : p.2.complete
    · simp
    · have : ((s.regions.filter (·.2.complete)).map (·.2.rid)).contains p.2.rid = true := by
        simp only [List.contains_eq_mem, List.mem_map, List.mem_filter, decide_eq_true_eq]
        exact ⟨p, ⟨hp, hcp⟩, rfl⟩
      rw [this]
      simp
  rw [hnewly]
  rfl

theorem lemma_complete_noEnd (s : Insp) (hq : Quiet s) (hc : s.complete = true) :
    ∀ p ∈ s.regions, p.2.isEnd = false ∧ p.2.complete = true := by
  intro p hp
  have hcp : p.2.complete = true := by
    simp only [Insp.complete, List.all_eq_true] at hc
    exact hc p hp
  refine ⟨?_, hcp⟩
  cases hE : p.2.isEnd
  · rfl
  · have := hq p hp
    simp [Region.complete, hE, this] at hcp

theorem lemma_eat_complete (s : Insp) (c : Bytes) (hg : Good2 s) (hc : s.complete = true) :
    eatChunk s c = ({ s with total := s.total + c.length }, none) := by
  refine lemma_eat_no_capture s c hg (lemma_captureAll_skippable s c hg.sinv ?_)
  simp only [skippable, List.all_eq_true]
  intro p hp
  obtain ⟨hE, hcp⟩ := lemma_complete_noEnd s hg.quiet hc p hp
  exact (lemma_regionSkips_iff _ _ _).mpr ⟨hE, .inl hcp⟩

theorem lemma_init_good2 (f : Fmt) (s0 : Insp) (h0 : Insp.init f = some s0) : Good2 s0 := by
  refine ⟨by rw [lemma_init_eq h0], ?_, lemma_init_sinv h0, lemma_init_bnd h0, ?_⟩
  all_goals rw [lemma_init_eq h0]
  · exact fun p hp => (lemma_mkRegions_fresh _ 0 p hp).2.2
  · -- the fixpoint, by evaluation over the generated region tables
    cases f <;> rfl

theorem lemma_feed_good2 (chunks : List Bytes) : ∀ (s : Insp), Good2 s → (feed s chunks).2 = none →
    Good2 (feed s chunks).1 := by
  intro s hg h
  fun_induction feed s chunks with
  | case1 => exact hg
  | case2 => cases h
  | case3 s c cs s1 he ih =>
    have := lemma_eat_good s c hg
    rw [he] at this
    exact ih (this rfl) h

end Oslo.Insp
