/-
Helper lemmas for C15, arithmetic half.  A number is read as a row of digits in a mixed radix
(`q * p + r` with `r < p`); the bit operations of the EUI-64 code act on single digits, so they
are turned into statements about digits, with the radices as variables.
-/
import OsloModel.Eui64
import OsloProofs.Lemmas.C15C16Basic
namespace Oslo.Eui64

/-- the digits `n, h, m, l` of `a` in the mixed radix `p, q, r` are its quotients and remainders -/
theorem lemma_mixed_radix_digits {a n p q r h m l : Nat} (ha : a = ((n * p + h) * q + m) * r + l)
    (hh : h < p) (hm : m < q) (hl : l < r) :
    a / (r * q * p) = n ∧ a / (r * q) % p = h ∧ a / r % q = m ∧ a % r = l := by
  subst ha
  have h1 : (((n * p + h) * q + m) * r + l) / r = (n * p + h) * q + m := lemma_digit_div _ hl
  have h2 : (((n * p + h) * q + m) * r + l) / (r * q) = n * p + h := by
    rw [← Nat.div_div_eq_div_mul, h1, lemma_digit_div _ hm]
  refine ⟨?_, ?_, ?_, Nat.mul_add_mod_of_lt hl⟩
  · rw [← Nat.div_div_eq_div_mul, h2, lemma_digit_div _ hh]
  · rw [h2, Nat.mul_add_mod_of_lt hh]
  · rw [h1, Nat.mul_add_mod_of_lt hm]

theorem lemma_testBit_field (a : Nat) {k n i : Nat} (hi : i < n) :
    a.testBit (k + i) = (a / 2^k % 2^n).testBit i := by
  rw [Nat.testBit_mod_two_pow, Nat.testBit_div_two_pow, decide_eq_true hi, Bool.true_and,
    Nat.add_comm]

theorem lemma_regroup (n h m l p q r : Nat) :
    n * (p * q * r) + ((h * q + m) * r + l) = ((n * p + h) * q + m) * r + l := by
  simp only [Nat.add_mul, Nat.mul_assoc, Nat.add_assoc]

theorem lemma_xor_digits (q c : Nat) {n r d : Nat} (hr : r < 2^n) (hd : d < 2^n) :
    (q * 2^n + r) ^^^ (c * 2^n + d) = (q ^^^ c) * 2^n + (r ^^^ d) := by
  rw [← Nat.div_add_mod' ((q * 2^n + r) ^^^ (c * 2^n + d)) (2^n), Nat.xor_div_two_pow,
    Nat.xor_mod_two_pow, lemma_digit_div q hr, lemma_digit_div c hd, Nat.mul_add_mod_of_lt hr,
    Nat.mul_add_mod_of_lt hd]

theorem lemma_xor_high (q c : Nat) {n r : Nat} (hr : r < 2^n) :
    (q * 2^n + r) ^^^ (c * 2^n) = (q ^^^ c) * 2^n + r := by
  simpa only [Nat.add_zero, Nat.xor_zero] using lemma_xor_digits q c hr (Nat.two_pow_pos n)

theorem lemma_xor_low (q : Nat) {n r d : Nat} (hr : r < 2^n) (hd : d < 2^n) :
    (q * 2^n + r) ^^^ d = q * 2^n + (r ^^^ d) := by
  simpa only [Nat.zero_mul, Nat.zero_add, Nat.xor_zero] using lemma_xor_digits q 0 hr hd

/-- the ff:fe insertion of `EUI.eui64()`: the three OR-ed parts are disjoint, so the result has the
    digits [top three octets] ff fe [low three octets] -/
theorem lemma_eui64Of48_arith (mac : Nat) :
    eui64Of48 mac = (mac / 2^24 * 2^16 + 0xFFFE) * 2^24 + mac % 2^24 := by
  unfold eui64Of48
  rw [show (0xFFFFFF : Nat) = 2^24 - 1 from rfl, Nat.and_two_pow_sub_one_eq_mod,
    show (mac >>> 24) <<< 40 = ((mac >>> 24) <<< 16) <<< 24 from Nat.shiftLeft_add _ 16 24,
    show (0xFFFE000000 : Nat) = 0xFFFE <<< 24 from rfl, ← Nat.shiftLeft_or_distrib,
    ← Nat.shiftLeft_add_eq_or_of_lt (by decide : 0xFFFE < 2^16),
    ← Nat.shiftLeft_add_eq_or_of_lt (Nat.mod_lt _ (Nat.two_pow_pos 24)),
    Nat.shiftLeft_eq, Nat.shiftLeft_eq, Nat.shiftRight_eq_div_pow]

theorem lemma_macOfNat_arith (a : Nat) :
    macOfNat a = (a / 2^40 % 2^24 * 2^24 + a % 2^24) ^^^ 2^41 := by
  unfold macOfNat
  have hM : a &&& 0xffffff0000000000 = a / 2^40 % 2^24 * 2^24 * 2^16 := by
    rw [← Nat.div_add_mod' (a &&& 0xffffff0000000000) (2^40), Nat.and_div_two_pow,
      Nat.and_mod_two_pow, show (0xffffff0000000000 : Nat) / 2^40 = 2^24 - 1 from rfl,
      show (0xffffff0000000000 : Nat) % 2^40 = 0 from rfl, Nat.and_two_pow_sub_one_eq_mod,
      Nat.and_zero, Nat.add_zero, Nat.mul_assoc]
  rw [hM, Nat.shiftRight_eq_div_pow, Nat.mul_div_cancel _ (Nat.two_pow_pos 16),
    show (0xffffff : Nat) = 2^24 - 1 from rfl, Nat.and_two_pow_sub_one_eq_mod]

/-- **Layout of the address.**  `(first + eui64) ^ (1 << 57)` when the network address has zero low
    64 bits, digit by digit: the network part, the top three MAC octets with bit 17 flipped, ff fe,
    the low three MAC octets. -/
theorem lemma_combine_layout (net mac : Nat) (hmac : mac < 2^48) (hnet : net % 2^64 = 0) :
    combine net (eui64Of48 mac)
      = ((net / 2^64 * 2^24 + (mac / 2^24 ^^^ 2^17)) * 2^16 + 0xFFFE) * 2^24 + mac % 2^24 := by
  have hhi : mac / 2^24 < 2^24 := Nat.div_lt_of_lt_mul hmac
  have hN : net = net / 2^64 * (2^24 * 2^16 * 2^24) :=
    (Nat.div_mul_cancel (Nat.dvd_of_mod_eq_zero hnet)).symm
  rw [combine, lemma_eui64Of48_arith]
  generalize net / 2^64 = n at hN ⊢
  subst hN
  -- bit 57 of the sum is bit 17 of its third digit
  rw [lemma_regroup, show (1 <<< 57 : Nat) = 2^17 * 2^16 * 2^24 from rfl,
    lemma_xor_high _ _ (Nat.mod_lt _ (Nat.two_pow_pos 24)),
    lemma_xor_high _ _ (by decide : 0xFFFE < 2^16), lemma_xor_low _ hhi (by decide : 2^17 < 2^24)]

theorem lemma_halves_lt (mac : Nat) (hmac : mac < 2^48) :
    mac / 2^24 ^^^ 2^17 < 2^24 ∧ mac % 2^24 < 2^24 :=
  ⟨Nat.xor_lt_two_pow (Nat.div_lt_of_lt_mul hmac) (by decide), Nat.mod_lt _ (Nat.two_pow_pos 24)⟩

/-- for a 48-bit MAC and an IPv6 network address with zero low 64 bits the computed integer is in
    the IPv6 range of `netaddr.IPAddress(int)` (never the IPv4 or the out-of-range outcome), so the
    call succeeds with that integer as the address -/
theorem lemma_addr_ok (net mac : Nat) (hmac : mac < 2^48) (hnet : net % 2^64 = 0)
    (hlt : net < 2^128) :
    addrByEUI64 (.net net) (.eui48 mac) = .ok (.v6 (combine net (eui64Of48 mac))) := by
  have hl := lemma_combine_layout net mac hmac hnet
  have hn : net / 2^64 < 2^64 := Nat.div_lt_of_lt_mul hlt
  obtain ⟨hhi, hlo⟩ := lemma_halves_lt mac hmac
  simp only [addrByEUI64, eui64Value, ipAddressOfInt]
  generalize combine net (eui64Of48 mac) = a at hl ⊢
  generalize net / 2^64 = n at hl hn
  generalize mac / 2^24 ^^^ 2^17 = hi at hl hhi
  generalize mac % 2^24 = lo at hl hlo
  have : ¬ a < 2^32 ∧ a < 2^128 := by omega
  rw [if_neg this.1, if_pos this.2]

/-- the inverse applied to the forward result, on numbers: flipping bit 41 of the MAC undoes the
    flip of bit 17 of its upper half -/
theorem lemma_macOfNat_combine (net mac : Nat) (hmac : mac < 2^48) (hnet : net % 2^64 = 0) :
    macOfNat (combine net (eui64Of48 mac)) = mac := by
  obtain ⟨hhi, hlo⟩ := lemma_halves_lt mac hmac
  obtain ⟨_, h1, _, h2⟩ := lemma_mixed_radix_digits (lemma_combine_layout net mac hmac hnet) hhi
    (by decide : 0xFFFE < 2^16) hlo
  rw [lemma_macOfNat_arith, h1, h2, show (2^41 : Nat) = 2^17 * 2^24 from rfl,
    lemma_xor_high _ _ hlo, Nat.xor_assoc, Nat.xor_self, Nat.xor_zero, Nat.div_add_mod']

end Oslo.Eui64
