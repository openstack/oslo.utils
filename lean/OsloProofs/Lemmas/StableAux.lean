/-
Post-processing looks only at an inspector's format, region table, identity counter and check
list: changing `total`, `qcowInfo`, `descText` or `vmdkType` commutes with it.

Each proof follows the branches of the function on `s`: on `s.setAux …` the function reads the
same fields, so it takes the same branch, and both sides compute to the same pair.
-/
import OsloProofs.Lemmas.Acts
namespace Oslo.Insp

variable (s : Insp) (t : Nat) (q : Option QcowInfo) (d : Option Bytes) (v : Bytes)

theorem lemma_setAux_newRegion (n : String) (off len : Nat) (ml : Option Nat) (e : Bool) :
    (s.setAux t q d v).newRegion n off len ml e =
      match s.newRegion n off len ml e with
      | .error x => .error x
      | .ok s' => .ok (s'.setAux t q d v) := by
  unfold Insp.newRegion
  have : (s.setAux t q d v).hasRegion n = s.hasRegion n := rfl
  rw [this]
  split <;> rfl

theorem lemma_setAux_deleteRegion (n : String) :
    (s.setAux t q d v).deleteRegion n =
      match s.deleteRegion n with
      | .error x => .error x
      | .ok s' => .ok (s'.setAux t q d v) := by
  unfold Insp.deleteRegion
  have : (s.setAux t q d v).hasRegion n = s.hasRegion n := rfl
  rw [this]
  split <;> rfl

theorem lemma_setAux_vhdxAddVds (m : Region) (io il : Nat) :
    vhdxAddVds (s.setAux t q d v) m io il =
      ((vhdxAddVds s m io il).1.setAux t q d v, (vhdxAddVds s m io il).2) := by
  unfold vhdxAddVds
  have e : (s.setAux t q d v).updRegion "metadata" (fun r => { r with length := r.data.length }) =
      (s.updRegion "metadata" (fun r => { r with length := r.data.length })).setAux t q d v := rfl
  rw [e, lemma_setAux_newRegion]
  cases (s.updRegion "metadata" (fun r => { r with length := r.data.length })).newRegion "vds"
      (m.offset + io) (min il Gen.vhdxMetaTableMax) none false <;> rfl

theorem lemma_setAux_vhdxPP :
    vhdxPostProcess (s.setAux t q d v) =
      ((vhdxPostProcess s).1.setAux t q d v, (vhdxPostProcess s).2) := by
  have e1 : ∀ n, (s.setAux t q d v).region n = s.region n := fun _ => rfl
  have e2 : ∀ n, (s.setAux t q d v).hasRegion n = s.hasRegion n := fun _ => rfl
  have e3 : vhdxFindMetaRegion (s.setAux t q d v) = vhdxFindMetaRegion s := rfl
  have e4 : vhdxFindMetaEntry (s.setAux t q d v) = vhdxFindMetaEntry s := rfl
  fun_cases vhdxPostProcess s <;> unfold vhdxPostProcess <;>
    simp only [*, lemma_setAux_newRegion, lemma_setAux_vhdxAddVds, ↓reduceIte,
      Bool.false_eq_true]

theorem lemma_setAux_vmdkAddFooter (g : Nat) :
    vmdkAddFooter (s.setAux t q d v) g =
      match vmdkAddFooter s g with
      | .error x => .error x
      | .ok s' => .ok (s'.setAux t q d v) := by
  have e2 : ∀ n, (s.setAux t q d v).hasRegion n = s.hasRegion n := fun _ => rfl
  have e5 : ∀ s' : Insp, (s'.setAux t q d v).checks = s'.checks := fun _ => rfl
  fun_cases vmdkAddFooter s g <;> unfold vmdkAddFooter <;>
    simp only [*, lemma_setAux_newRegion, ↓reduceIte] <;> rfl

theorem lemma_setAux_vmdkRelocate (a b : Nat) :
    vmdkRelocate (s.setAux t q d v) a b =
      ((vmdkRelocate s a b).1.setAux t q d v, (vmdkRelocate s a b).2) := by
  have e1 : ∀ n, (s.setAux t q d v).region n = s.region n := fun _ => rfl
  fun_cases vmdkRelocate s a b <;> unfold vmdkRelocate <;>
    simp only [*, lemma_setAux_deleteRegion, lemma_setAux_newRegion, ↓reduceIte, ne_eq, not_false_eq_true]

theorem lemma_setAux_vmdkPP :
    vmdkPostProcess (s.setAux t q d v) =
      ((vmdkPostProcess s).1.setAux t q d v, (vmdkPostProcess s).2) := by
  have e0 : (s.setAux t q d v).regions = s.regions := rfl
  fun_cases vmdkPostProcess s <;> unfold vmdkPostProcess <;>
    simp only [*, lemma_setAux_deleteRegion, lemma_setAux_vmdkAddFooter, lemma_setAux_vmdkRelocate,
      ↓reduceIte, ne_eq, not_false_eq_true, Bool.false_eq_true]

theorem lemma_setAux_postProcess :
    postProcess (s.setAux t q d v) = ((postProcess s).1.setAux t q d v, (postProcess s).2) := by
  unfold postProcess
  have e : (s.setAux t q d v).fmt = s.fmt := rfl
  rw [e]
  split
  · exact lemma_setAux_vhdxPP s t q d v
  · exact lemma_setAux_vmdkPP s t q d v
  · rfl

theorem lemma_setAux_fix (h : postProcess s = (s, none)) :
    postProcess (s.setAux t q d v) = (s.setAux t q d v, none) := by
  rw [lemma_setAux_postProcess, h]

end Oslo.Insp
