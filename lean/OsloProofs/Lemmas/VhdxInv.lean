/-
VHDX: the between-chunks invariant `VInv` — the inspector state is one of three shapes determined by
the prefix streamed so far (up to the length at which the metadata region was stopped) — and its
preservation by `eat_chunk` under `VhdxForward ∧ VhdxMetaSigOK`.
-/
import OsloProofs.Lemmas.VhdxStep
namespace Oslo.Insp

inductive VInv (q : Bytes) : Insp → Prop
  | early (h : q.length < 262144) : VInv q (stA q)
  | nometa (h : 262144 ≤ q.length) (hr : findMetaRegionB (sliceOf q 196608 65536) = .ok none) : VInv q (stA q)
  | withMeta (mo : Nat) (h : 262144 ≤ q.length) (hr : findMetaRegionB (sliceOf q 196608 65536) = .ok (some mo))
      (he : findMetaEntryB (sliceOf q mo 65536) = .ok none) : VInv q (stM q mo)
  | withVds (mo ioff ilen L : Nat) (h : 262144 ≤ q.length)
      (hr : findMetaRegionB (sliceOf q 196608 65536) = .ok (some mo))
      (he : findMetaEntryB (sliceOf q mo 65536) = .ok (some (ioff, ilen)))
      (hL : mo + L ≤ q.length) : VInv q (stV q mo L (mo + ioff) (min ilen 65536))

/-- the state in which an inspector stops with an error: the region table of the header was refused -/
def VErr (q : Bytes) (st : Insp) (e : Err) : Prop :=
  262144 ≤ q.length ∧ findMetaRegionB (sliceOf q 196608 65536) = .error e ∧ st = stA q

/-- the outcome of one `eat_chunk` -/
def VNext (q : Bytes) (r : Insp × Option Err) : Prop :=
  match r with
  | (st', none) => VInv q st'
  | (st', some e) => VErr q st' e

theorem lemma_tail_vinv {n : Nat} (s p c : Bytes) (mo : Nat) (hq : p ++ c <+: s) (hf : VhdxForward s)
    (hs : VhdxMetaSigOK s) (hl : 262144 ≤ (p ++ c).length)
    (hr : findMetaRegionB (sliceOf (p ++ c) 196608 65536) = .ok (some mo))
    (hfw : ∀ ioff ilen, findMetaEntryB (sliceOf (p ++ c) mo 65536) = .ok (some (ioff, ilen)) →
      entriesEnd (sliceOf (p ++ c) mo 65536) ≤ ioff → p.length ≤ mo + ioff) :
    VNext (p ++ c) (metaTail (n + 2) (p ++ c) c mo) := by
  have ho := (lemma_metaOff_iff _ mo).2 ⟨hl, hr⟩
  cases he : findMetaEntryB (sliceOf (p ++ c) mo 65536) with
  | error e => exact absurd he (lemma_entry_noerr s (p ++ c) mo hq hs ho e)
  | ok o =>
    cases o with
    | none =>
      rw [lemma_metaTail_none _ _ _ _ he]
      exact VInv.withMeta mo hl hr he
    | some x =>
      obtain ⟨ioff, ilen⟩ := x
      rw [lemma_metaTail_some n p c mo ioff ilen he
        (hfw ioff ilen he ((lemma_fwd_prefix s (p ++ c) mo hq hf ho).2 ioff ilen he))]
      exact VInv.withVds mo ioff ilen _ hl hr he
        (lemma_sliceOf_end _ _ _ (Nat.lt_of_lt_of_le (by decide) (lemma_findMetaEntry_some _ _ he).1))

theorem lemma_vinv_step (s p c : Bytes) (st : Insp) (hq : p ++ c <+: s) (hf : VhdxForward s)
    (hs : VhdxMetaSigOK s) (h : VInv p st) : VNext (p ++ c) (eatChunk st c) := by
  have hpq : p <+: p ++ c := List.prefix_append p c
  cases h with
  | early hlt =>
    -- a metadata region named by the table starts at or after 256 KiB, beyond the bytes streamed so far
    have hpm : ∀ mo, 262144 ≤ (p ++ c).length → findMetaRegionB (sliceOf (p ++ c) 196608 65536) = .ok (some mo) →
        p.length ≤ mo := fun mo hl hr =>
      Nat.le_trans (Nat.le_of_lt hlt) (lemma_fwd_prefix s (p ++ c) mo hq hf ((lemma_metaOff_iff _ mo).2 ⟨hl, hr⟩)).1
    rw [lemma_eat_A p c hpm]
    by_cases hl : 262144 ≤ (p ++ c).length
    · rw [if_pos hl]
      cases hr : findMetaRegionB (sliceOf (p ++ c) 196608 65536) with
      | error e => exact ⟨hl, hr, rfl⟩
      | ok o =>
        cases o with
        | none => exact VInv.nometa hl hr
        | some mo =>
          exact lemma_tail_vinv s p c mo hq hf hs hl hr
            (fun ioff _ _ _ => Nat.le_trans (hpm mo hl hr) (Nat.le_add_right _ _))
    · rw [if_neg hl]
      exact VInv.early (Nat.lt_of_not_le hl)
  | nometa hl hr =>
    have hl' := Nat.le_trans hl hpq.length_le
    have hr' := lemma_header_frozen hpq hl ▸ hr
    rw [lemma_eat_A p c (fun mo _ h => nomatch hr'.symm.trans h), if_pos hl', hr']
    exact VInv.nometa hl' hr'
  | withMeta mo hl hr he =>
    rw [lemma_eat_M]
    exact lemma_tail_vinv s p c mo hq hf hs (Nat.le_trans hl hpq.length_le) (lemma_header_frozen hpq hl ▸ hr)
      (fun ioff ilen h1 hes => lemma_item_forward p c mo ioff ilen he h1 hes)
  | withVds mo ioff ilen L hl hr he hL =>
    rw [lemma_eat_V]
    exact VInv.withVds mo ioff ilen L (Nat.le_trans hl hpq.length_le) (lemma_header_frozen hpq hl ▸ hr)
      (lemma_entry_mono p c mo _ he) (Nat.le_trans hL hpq.length_le)

/-- a whole feed (the wrapper's discipline: stop at the first error) of chunks whose bytes are a
    prefix of the stream `s` -/
theorem lemma_vinv_feed (s : Bytes) (hf : VhdxForward s) (hs : VhdxMetaSigOK s) :
    ∀ (chunks : List Bytes) (p : Bytes) (st : Insp), VInv p st → p ++ chunks.flatten <+: s →
      ∃ q, q <+: s ∧ VNext q (feed st chunks) ∧ ((feed st chunks).2 = none → q = p ++ chunks.flatten) ∧
        q <+: p ++ chunks.flatten := by
  intro chunks
  induction chunks with
  | nil =>
    intro p st h hp
    simp only [List.flatten_nil, List.append_nil] at hp ⊢
    exact ⟨p, hp, h, fun _ => rfl, List.prefix_refl _⟩
  | cons c cs ih =>
    intro p st h hp
    have hassoc : p ++ (c :: cs).flatten = (p ++ c) ++ cs.flatten := by simp
    rw [hassoc] at hp ⊢
    have hq : p ++ c <+: s := List.IsPrefix.trans (List.prefix_append _ _) hp
    have hstep := lemma_vinv_step s p c st hq hf hs h
    unfold feed
    cases heq : eatChunk st c with
    | mk s1 e =>
      rw [heq] at hstep
      cases e with
      | some e => exact ⟨p ++ c, hq, hstep, fun hn => by simp at hn, List.prefix_append _ _⟩
      | none => exact ih (p ++ c) s1 hstep hp

end Oslo.Insp
