/-
Helper lemmas for the MBR/GPT acceptance characterisation (C02): the loop of
check_mbr_partitions as a closed formula.
-/
import OsloModel.Inspector
namespace Oslo.Insp

/-- one partition table entry passes the per-entry tests of check_mbr_partitions -/
def pteOkB (p : Pte) : Bool :=
  (p.boot == 0x00 || p.boot == 0x80) &&
  (p.ostype != 0xEE || ((p.starth == 0 && p.starts == 2 && p.startt == 0) && p.startlba == 1))

theorem lemma_gptLoop_step (mbr : Bytes) (p : Pte) (n i : Nat) (valid : List Nat) (found : Bool)
    (hi : gptPte mbr i = .ok p) :
    gptLoop mbr (n + 1) i valid found =
      if pteOkB p then
        gptLoop mbr n (i + 1) (if p.ostype ≠ 0 then valid ++ [i] else valid) (found || p.ostype == 0xEE)
      else .ok none := by
  -- the guards of the loop body as Booleans: boot flag, protective type, CHS, LBA
  have key : ∀ {α : Type} (X : α) (Y : Bool → α) (B E C L : Bool),
      (if (!B) = true then X else
        if E = true then (if (!C) = true then X else if ¬ L = true then X else Y true) else Y found) =
      if (B && (!E || (C && L))) = true then Y (found || E) else X := by
    intro α X Y B E C L
    cases B <;> cases E <;> cases C <;> cases L <;> simp
  have := key (Except.ok none)
    (fun f => gptLoop mbr n (i + 1) (if p.ostype ≠ 0 then valid ++ [i] else valid) f)
    (decide (p.boot = 0) || decide (p.boot = 128)) (decide (p.ostype = 238))
    (decide (p.starth = 0) && decide (p.starts = 2) && decide (p.startt = 0)) (decide (p.startlba = 1))
  simp only [decide_eq_true_eq] at this
  simp only [gptLoop, hi, bind, Except.bind, pure, Except.pure]
  exact this

theorem lemma_gptLoop (mbr : Bytes) (P : Nat → Pte) : ∀ (n i : Nat) (valid : List Nat) (found : Bool),
    (∀ j, i ≤ j → j < i + n → gptPte mbr j = .ok (P j)) →
    gptLoop mbr n i valid found =
      .ok (if (List.range' i n).all (fun j => pteOkB (P j)) then
             some (valid ++ (List.range' i n).filter (fun j => (P j).ostype != 0),
                   found || (List.range' i n).any (fun j => (P j).ostype == 0xEE))
           else none) := by
  intro n
  induction n with
  | zero => intro i valid found _; simp [gptLoop]
  | succ n ih =>
    intro i valid found hP
    rw [lemma_gptLoop_step mbr (P i) n i valid found (hP i (Nat.le_refl _) (by omega)),
      ih (i + 1) _ _ (fun j h1 h2 => hP j (by omega) (by omega))]
    simp only [List.range'_succ, List.all_cons, List.filter_cons, List.any_cons]
    cases hk : pteOkB (P i) <;> simp only [Bool.true_and, Bool.false_and, if_true, Bool.false_eq_true, if_false]
    by_cases hz : (P i).ostype = 0 <;> simp [hz, Bool.or_assoc]

end Oslo.Insp
