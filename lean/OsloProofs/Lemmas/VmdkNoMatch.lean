/-
The VMDK inspector on streams it cannot match: streams that do not start with `KDMV` and that are
either shorter than the 64-byte sparse header or have a non-text byte among their first 64 bytes.
For every chunking the inspector ends with its header region still in place, so `format_match` is
`False`; it raised ImageFormatError exactly when 64 bytes were streamed.  (What is chunk-dependent
in the final state — the residue of an early parse of the offset-0 descriptor region, `vt`/`dt`
below — never reaches the caller of `InspectWrapper.format`, which only returns matching
inspectors.)  This covers non-VMDK content in wrappers that include the VMDK inspector.
-/
import OsloProofs.Props.C01Vmdk
namespace Oslo.Insp

theorem lemma_pre_pp_err (n : Nat) (hd d0 : Bytes) (dt : Option Bytes) (vt : Bytes) (hlen : 64 ≤ hd.length)
    (hsig : startsWith hd kdmv = false) (htxt : isTextHeader hd = false) :
    postProcess (vPre n hd d0 dt vt) = (vPre n hd d0 dt vt, some .imageFormat) := by
  have : postProcess (vPre n hd d0 dt vt) = vmdkPostProcess (vPre n hd d0 dt vt) := rfl
  rw [this]
  unfold vmdkPostProcess
  have hl : lookupR "header" (vPre n hd d0 dt vt).regions = some (vHdrR hd) := rfl
  rw [hl]
  simp only [lemma_vmdk_hdr_complete hd hlen, Bool.not_true, Bool.false_eq_true, if_false]
  have hdat : (vHdrR hd).data = hd := rfl
  rw [hdat, lemma_vmdk_parse_hdrOf hd hlen]
  have hne : (hdrOf hd).sig ≠ kdmv := by
    simp only [startsWith, lemma_kdmv_length, beq_eq_false_iff_ne, ne_eq] at hsig
    exact hsig
  simp only [hne, ne_eq, not_false_eq_true, if_true, htxt, Bool.false_eq_true, if_false]

theorem lemma_isText_take (x : Bytes) (k : Nat) (h : isTextHeader (x.take k) = false) : isTextHeader x = false := by
  have hx : x = x.take k ++ x.drop k := (List.take_append_drop k x).symm
  unfold isTextHeader at h ⊢
  rw [hx, List.all_append, h]
  rfl

theorem lemma_pre_step_err (p c d0 : Bytes) (dt : Option Bytes) (vt : Bytes)
    (hp64 : p.length < 64) (hq64 : 64 ≤ (p ++ c).length) (hinv : PlainInv (vDesc0R d0) p)
    (hsig : startsWith (p ++ c) kdmv = false) (htxt : isTextHeader ((p ++ c).take 64) = false) :
    ∃ d0', eatChunk (vPre p.length (sliceOf p 0 512) d0 dt vt) c =
        (vPre (p.length + c.length) (sliceOf (p ++ c) 0 512) d0' dt vt, some .imageFormat) := by
  obtain ⟨d0', hstep, _, _⟩ := lemma_vmdk_step_desc0 c hinv
  have hhl : 64 ≤ (sliceOf (p ++ c) 0 512).length := by rw [lemma_sliceOf_length]; omega
  have hsig' : startsWith (sliceOf (p ++ c) 0 512) kdmv = false :=
    (lemma_startsWith_sliceOf0 _ kdmv 512 (by decide)).trans hsig
  have htxt' : isTextHeader (sliceOf (p ++ c) 0 512) = false := by
    apply lemma_isText_take _ 64
    rw [← htxt]
    simp only [sliceOf, List.drop_zero, List.take_take]
    congr 2
  exact ⟨d0', lemma_vmdk_eat_unfold_err c rfl (lemma_pre_capture c hp64 hstep)
    (lemma_pre_pp_err _ _ d0' dt vt hhl hsig' htxt')⟩

theorem lemma_pre_feed_nomatch (chunks : List Bytes) : ∀ (p d0 : Bytes) (dt : Option Bytes) (vt : Bytes),
    p.length < 64 → PlainInv (vDesc0R d0) p →
    ((p ++ chunks.flatten).length < 64 ∨
      (startsWith (p ++ chunks.flatten) kdmv = false ∧ isTextHeader ((p ++ chunks.flatten).take 64) = false)) →
    ∃ n hd d0' dt' vt',
      feed (vPre p.length (sliceOf p 0 512) d0 dt vt) chunks =
        (vPre n hd d0' dt' vt', if (p ++ chunks.flatten).length < 64 then none else some .imageFormat) ∧
      startsWith hd kdmv = startsWith (p ++ chunks.flatten) kdmv ∧
      hd.length ≤ (p ++ chunks.flatten).length := by
  have hsl : ∀ q : Bytes, startsWith (sliceOf q 0 512) kdmv = startsWith q kdmv :=
    fun q => lemma_startsWith_sliceOf0 q kdmv 512 (by decide)
  have hlen : ∀ q r : Bytes, (sliceOf q 0 512).length ≤ (q ++ r).length := by
    intro q r
    rw [lemma_sliceOf_length, List.length_append]
    omega
  induction chunks with
  | nil =>
    intro p d0 dt vt h64 _ _
    rw [List.flatten_nil, List.append_nil]
    exact ⟨p.length, sliceOf p 0 512, d0, dt, vt, by rw [feed, if_pos h64], hsl p, by simpa using hlen p []⟩
  | cons c cs ih =>
    intro p d0 dt vt h64 hinv hyp
    have hassoc : p ++ (c :: cs).flatten = (p ++ c) ++ cs.flatten := by simp
    rw [hassoc] at hyp ⊢
    by_cases hlt : (p ++ c).length < 64
    · obtain ⟨d0', dt', vt', heat, hinv', _⟩ := lemma_pre_step c dt vt hlt hinv
      rw [← List.length_append] at heat
      simp only [feed, heat]
      exact ih (p ++ c) d0' dt' vt' hlt hinv' hyp
    · have hq64 : 64 ≤ (p ++ c).length := by omega
      have hlong : ¬ ((p ++ c) ++ cs.flatten).length < 64 := by
        rw [List.length_append]; omega
      rcases hyp with hyp | ⟨hsig, htxt⟩
      · exact absurd hyp hlong
      · have hsw : startsWith ((p ++ c) ++ cs.flatten) kdmv = startsWith (p ++ c) kdmv :=
          lemma_startsWith_prefix (List.prefix_append _ _) kdmv (by rw [lemma_kdmv_length]; omega)
        rw [hsw] at hsig
        rw [List.take_append_of_le_length hq64] at htxt
        obtain ⟨d0', heat⟩ := lemma_pre_step_err p c d0 dt vt h64 hq64 hinv hsig htxt
        exact ⟨p.length + c.length, sliceOf (p ++ c) 0 512, d0', dt, vt,
          by simp only [feed, heat, if_neg hlong], by rw [hsw]; exact hsl _, hlen _ _⟩

/-- streams the VMDK inspector cannot match, whatever the chunking -/
def VmdkNoMatch (s : Bytes) : Prop :=
  startsWith s kdmv = false ∧ (s.length < 64 ∨ isTextHeader (s.take 64) = false)

instance (s : Bytes) : Decidable (VmdkNoMatch s) := by unfold VmdkNoMatch; infer_instance

theorem lemma_vmdk_feed_nomatch (s0 : Insp) (h0 : Insp.init .vmdk = some s0) (L : List Bytes) (r : Bytes)
    (h : VmdkNoMatch (L.flatten ++ r)) :
    ∃ n hd d0 dt vt,
      feed s0 L = (vPre n hd d0 dt vt, if L.flatten.length < 64 then none else some .imageFormat) ∧
      startsWith hd kdmv = startsWith L.flatten kdmv ∧ hd.length ≤ L.flatten.length := by
  have hyp : (([] : Bytes) ++ L.flatten).length < 64 ∨
      (startsWith ([] ++ L.flatten) kdmv = false ∧ isTextHeader (([] ++ L.flatten).take 64) = false) := by
    rw [List.nil_append]
    by_cases hlt : L.flatten.length < 64
    · exact .inl hlt
    · refine .inr ⟨?_, ?_⟩
      · rw [← h.1]
        exact (lemma_startsWith_prefix (List.prefix_append _ _) kdmv (by rw [lemma_kdmv_length]; omega)).symm
      · rcases h.2 with h2 | h2
        · rw [List.length_append] at h2; omega
        · rw [← h2, List.take_append_of_le_length (by omega)]
  rw [lemma_vmdk_init s0 h0]
  have := lemma_pre_feed_nomatch L [] [] none formatNotFound (by decide) lemma_vmdk_plainInv_init hyp
  rw [List.nil_append] at this
  exact this

theorem lemma_vmdk_nomatch (s0 : Insp) (h0 : Insp.init .vmdk = some s0) (chunks : List Bytes)
    (h : VmdkNoMatch chunks.flatten) :
    formatMatch (runChunks s0 chunks).1 = .ok false ∧
    (feed s0 chunks).2 = if chunks.flatten.length < 64 then none else some .imageFormat := by
  obtain ⟨n, hd, d0, dt, vt, hfeed, hsw, _⟩ := lemma_vmdk_feed_nomatch s0 h0 chunks [] (by simpa using h)
  refine ⟨?_, by rw [hfeed]⟩
  show formatMatch (feed s0 chunks).1.finish = _
  rw [hfeed, ← h.1, ← hsw]
  simp [formatMatch, vPre, Insp.finish, lookupR, Region.finish, vHdrR]

end Oslo.Insp
