/-
Helper lemmas for C14: `str.strip`, and the integer parser `pyIntParseAscii`, which accepts exactly
  whitespace* sign? body whitespace*      (body: digits and single inner underscores)
in both directions, stated with the model's own character predicates and, for base 10, with the
declarative grammar `DigitGroups` / `decValue`.
-/
import OsloModel.Scalars
namespace Oslo.Scalars

theorem lemma_takeWhile_span {α} (p : α → Bool) (l m : List α)
    (hl : ∀ x ∈ l, p x = true) (hm : ∀ x ∈ m, p x = false) :
    (l ++ m).takeWhile p = l ∧ (l ++ m).dropWhile p = m := by
  rw [List.takeWhile_append_of_pos hl, List.dropWhile_append_of_pos hl]
  cases m with
  | nil => simp
  | cons a m => simp [hm a (by simp)]

theorem lemma_contains_take (l : List Nat) (k b n : Nat) (h : ∀ m ∈ l.drop k, b ≤ m) (hn : n < b) :
    l.contains n = (l.take k).contains n := by
  rw [Bool.eq_iff_iff, List.contains_iff_mem, List.contains_iff_mem]
  constructor
  · intro hm
    rw [← List.take_append_drop k l] at hm
    rcases List.mem_append.mp hm with hm | hm
    · exact hm
    · have := h n hm; omega
  · exact List.mem_of_mem_take

theorem lemma_strip_pad (p : Char → Bool) (l m r : List Char)
    (hl : ∀ x ∈ l, p x = true) (hr : ∀ x ∈ r, p x = true) (hm : ∀ x ∈ m, p x = false) :
    stripChars p (l ++ m ++ r) = m := by
  unfold stripChars
  rw [List.append_assoc, List.dropWhile_append_of_pos hl]
  cases m with
  | nil =>
    have : r.dropWhile p = [] := by simpa using List.dropWhile_append_of_pos (l₂ := []) hr
    simp [this]
  | cons a m =>
    rw [List.cons_append, List.dropWhile_cons_of_neg (by simp [hm a]), ← List.cons_append,
      List.reverse_append,
      (lemma_takeWhile_span p _ _ (fun x hx => hr x (List.mem_reverse.mp hx))
        (fun x hx => hm x (List.mem_reverse.mp hx))).2,
      List.reverse_reverse]

theorem lemma_strip_none (p : Char → Bool) (m : List Char) (hm : ∀ x ∈ m, p x = false) :
    stripChars p m = m := by
  simpa using lemma_strip_pad p [] m [] (by simp) (by simp) hm

theorem lemma_toNat_ofNat (n : Nat) (h : n < 0xd800) : (Char.ofNat n).toNat = n := by
  rw [Char.ofNat, dif_pos (Or.inl h)]; rfl

theorem lemma_isDigitIn_iff (base : Nat) (c : Char) :
    isDigitIn base c = true ↔ ∃ d, digitVal c = some d ∧ d < base := by
  unfold isDigitIn
  cases digitVal c <;> simp

theorem lemma_digitVal_range (c : Char) (d : Nat) (h : digitVal c = some d) :
    (48 ≤ c.toNat ∧ c.toNat ≤ 57 ∧ d = c.toNat - 48) ∨ (97 ≤ c.toNat ∧ c.toNat ≤ 122 ∧ d = c.toNat - 87) ∨
      (65 ≤ c.toNat ∧ c.toNat ≤ 90 ∧ d = c.toNat - 55) := by
  by_cases h1 : 48 ≤ c.toNat ∧ c.toNat ≤ 57
  · simp [digitVal, h1] at h; exact Or.inl ⟨h1.1, h1.2, h.symm⟩
  by_cases h2 : 97 ≤ c.toNat ∧ c.toNat ≤ 122
  · simp [digitVal, h1, h2] at h; exact Or.inr (Or.inl ⟨h2.1, h2.2, h.symm⟩)
  by_cases h3 : 65 ≤ c.toNat ∧ c.toNat ≤ 90
  · simp [digitVal, h1, h2, h3] at h; exact Or.inr (Or.inr ⟨h3.1, h3.2, h.symm⟩)
  simp [digitVal, h1, h2, h3] at h

/-- digits and the underscore lie in `'0'..'z'`, above the signs and the C whitespace -/
theorem lemma_body_range (base : Nat) (c : Char) (h : isBodyChar base c = true) :
    48 ≤ c.toNat ∧ c.toNat ≤ 122 := by
  rcases Bool.or_eq_true _ _ ▸ h with h | h
  · obtain ⟨d, hd, _⟩ := (lemma_isDigitIn_iff base c).mp h
    have := lemma_digitVal_range c d hd
    omega
  · rw [beq_iff_eq.mp h]; decide

theorem lemma_body_facts (base : Nat) (c : Char) (h : isBodyChar base c = true) :
    c.toNat < 127 ∧ isIntSpace c = false ∧ c ≠ '-' ∧ c ≠ '+' := by
  have hr := lemma_body_range base c h
  refine ⟨by omega, ?_, ?_, ?_⟩
  · simp [isIntSpace]; omega
  · rintro rfl; simp at hr
  · rintro rfl; simp at hr

theorem lemma_space_not_body (base : Nat) (c : Char) (h : isIntSpace c = true) :
    isBodyChar base c = false := by
  have hr : (9 ≤ c.toNat ∧ c.toNat ≤ 13) ∨ c.toNat = 32 := by simpa [isIntSpace] using h
  cases hb : isBodyChar base c with
  | false => rfl
  | true => have := lemma_body_range base c hb; omega

theorem lemma_digit_body (base : Nat) (c : Char) (h : isDigitIn base c = true) :
    isBodyChar base c = true ∧ c ≠ '_' := by
  refine ⟨by simp [isBodyChar, h], ?_⟩
  rintro rfl
  exact absurd h (by simp [isDigitIn, digitVal])

theorem lemma_bodyOk_head (base : Nat) (body : List Char) (hok : bodyOk body = true)
    (hbody : ∀ c ∈ body, isBodyChar base c = true) :
    ∃ d b, body = d :: b ∧ isDigitIn base d = true := by
  cases body with
  | nil => simp [bodyOk] at hok
  | cons d b =>
    refine ⟨d, b, rfl, ?_⟩
    have h1 : d ≠ '_' := by
      intro e; subst e; simp [bodyOk] at hok
    simpa [isBodyChar, h1] using hbody d (by simp)

theorem lemma_sign_split (sign rest : List Char) (d : Char) (r : List Char) (hr : rest = d :: r)
    (hsign : sign = [] ∨ sign = ['+'] ∨ sign = ['-'])
    (hd : isIntSpace d = false ∧ d ≠ '-' ∧ d ≠ '+') :
    (sign ++ rest).dropWhile isIntSpace = sign ++ rest ∧ skipSign (sign ++ rest) = rest ∧
      ((sign ++ rest).head? == some '-') = decide (sign = ['-']) := by
  subst hr
  rcases hsign with rfl | rfl | rfl
  · simp [skipSign, hd.1, hd.2.1, hd.2.2]
  · simp [skipSign, isIntSpace]
  · simp [skipSign, isIntSpace]

/-- `hx`: in base 16 the body must not look like a `0x` prefix -/
theorem lemma_parse_literal (base : Nat) (pre sign body post : List Char)
    (hpre : ∀ c ∈ pre, isIntSpace c = true) (hpost : ∀ c ∈ post, isIntSpace c = true)
    (hsign : sign = [] ∨ sign = ['+'] ∨ sign = ['-'])
    (hbody : ∀ c ∈ body, isBodyChar base c = true) (hok : bodyOk body = true)
    (hx : base = 16 → skipHexPrefix (body ++ post) = body ++ post) :
    pyIntParseAscii base (pre ++ sign ++ body ++ post) =
      if base = 10 ∧ overLimit (digitCount body) = true then none
      else some (if sign = ['-'] then -(Int.ofNat (bodyValue base body)) else Int.ofNat (bodyValue base body)) := by
  obtain ⟨d, b, hbeq, hd⟩ := lemma_bodyOk_head base body hok hbody
  have hdf := lemma_body_facts base d (lemma_digit_body base d hd).1
  obtain ⟨e1, e2, e3⟩ := lemma_sign_split sign (body ++ post) d (b ++ post) (by rw [hbeq]; rfl) hsign hdf.2
  obtain ⟨e4, e5⟩ := lemma_takeWhile_span (isBodyChar base) body post hbody
    (fun c hc => lemma_space_not_body base c (hpost c hc))
  have e6 : (if base = 16 then skipHexPrefix (body ++ post) else body ++ post) = body ++ post := by
    split
    · exact hx ‹_›
    · rfl
  unfold pyIntParseAscii
  rw [List.append_assoc, List.append_assoc, List.dropWhile_append_of_pos hpre]
  simp only [e1, e2, e3, e6, e4, e5, hok, List.all_eq_true.mpr hpost]
  simp

theorem lemma_skipSign_inv (s : List Char) :
    ∃ sign, (sign = [] ∨ sign = ['+'] ∨ sign = ['-']) ∧ s = sign ++ skipSign s ∧
      (s.head? == some '-') = decide (sign = ['-']) := by
  cases s with
  | nil => exact ⟨[], Or.inl rfl, rfl, rfl⟩
  | cons c r =>
    by_cases h1 : c = '-'
    · subst h1; exact ⟨['-'], Or.inr (Or.inr rfl), by simp [skipSign], by simp⟩
    · by_cases h2 : c = '+'
      · subst h2; exact ⟨['+'], Or.inr (Or.inl rfl), by simp [skipSign], by rw [List.head?_cons]; decide⟩
      · exact ⟨[], Or.inl rfl, by simp [skipSign, h1, h2], by simp [h1]⟩

theorem lemma_literal_of_parse (t : List Char) (n : Int) (h : pyIntParseAscii 10 t = some n) :
    ∃ pre sign body post, t = pre ++ sign ++ body ++ post ∧
      (∀ c ∈ pre, isIntSpace c = true) ∧ (∀ c ∈ post, isIntSpace c = true) ∧
      (sign = [] ∨ sign = ['+'] ∨ sign = ['-']) ∧
      (∀ c ∈ body, isBodyChar 10 c = true) ∧ bodyOk body = true ∧
      overLimit (digitCount body) = false ∧
      n = (if sign = ['-'] then -(Int.ofNat (bodyValue 10 body)) else Int.ofNat (bodyValue 10 body)) := by
  unfold pyIntParseAscii at h
  simp only [show ((10 : Nat) = 16) = False from by simp, if_false] at h
  have ht : t = t.takeWhile isIntSpace ++ t.dropWhile isIntSpace := List.takeWhile_append_dropWhile.symm
  have hpre : ∀ c ∈ t.takeWhile isIntSpace, isIntSpace c = true := List.all_eq_true.mp List.all_takeWhile
  generalize t.takeWhile isIntSpace = pre at ht hpre
  generalize t.dropWhile isIntSpace = s1 at h ht
  obtain ⟨sign, hsign, hs1, hneg⟩ := lemma_skipSign_inv s1
  have hs2 : skipSign s1 = (skipSign s1).takeWhile (isBodyChar 10) ++ (skipSign s1).dropWhile (isBodyChar 10) :=
    List.takeWhile_append_dropWhile.symm
  have hb : ∀ c ∈ (skipSign s1).takeWhile (isBodyChar 10), isBodyChar 10 c = true :=
    List.all_eq_true.mp List.all_takeWhile
  generalize (skipSign s1).takeWhile (isBodyChar 10) = body at h hs2 hb
  generalize (skipSign s1).dropWhile (isBodyChar 10) = post at h hs2
  cases hok : bodyOk body with
  | false => simp [hok] at h
  | true =>
    cases hall : post.all isIntSpace with
    | false => simp [hok, hall] at h
    | true =>
      cases hlim : overLimit (digitCount body) with
      | true => simp [hok, hall, hlim] at h
      | false =>
        simp only [hok, hall, hlim, hneg, Bool.not_true, Bool.false_eq_true, if_false, and_false,
          Option.some.injEq, decide_eq_true_eq] at h
        refine ⟨pre, sign, body, post, ?_, hpre, List.all_eq_true.mp hall, hsign, hb, hok, hlim, h.symm⟩
        rw [ht, hs1, hs2]
        simp

theorem lemma_decChars_facts : ∀ c ∈ decChars,
    isDigitIn 10 c = true ∧ digitVal c = some (c.toNat - '0'.toNat) ∧ c ≠ '_' := by decide +kernel

theorem lemma_dec_ofNat : ∀ n, n < 58 → 48 ≤ n → Char.ofNat n ∈ decChars := by decide +kernel

theorem lemma_digit10_iff (c : Char) : isDigitIn 10 c = true ↔ c ∈ decChars := by
  constructor
  · intro h
    -- the letters have values from 10 upwards
    obtain ⟨d, hd, hlt⟩ := (lemma_isDigitIn_iff 10 c).mp h
    have hr := lemma_digitVal_range c d hd
    have := lemma_dec_ofNat c.toNat (by omega) (by omega)
    rwa [Char.ofNat_toNat] at this
  · intro h; exact (lemma_decChars_facts c h).1

theorem lemma_body_char_iff (c : Char) : isBodyChar 10 c = true ↔ (c ∈ decChars ∨ c = '_') := by
  simp [isBodyChar, lemma_digit10_iff]

theorem lemma_double_iff (body : List Char) :
    hasDoubleUnderscore body = true ↔ ∃ l r, body = l ++ '_' :: '_' :: r := by
  induction body with
  | nil => simp [hasDoubleUnderscore]
  | cons a rest ih =>
    cases rest with
    | nil =>
      simp only [hasDoubleUnderscore, Bool.false_eq_true, false_iff]
      rintro ⟨l, r, h⟩
      have := congrArg List.length h
      simp at this
      omega
    | cons b rest =>
      simp only [hasDoubleUnderscore, Bool.or_eq_true, Bool.and_eq_true, beq_iff_eq, ih]
      constructor
      · rintro (⟨rfl, rfl⟩ | ⟨l, r, h⟩)
        · exact ⟨[], rest, rfl⟩
        · exact ⟨a :: l, r, by rw [h]; rfl⟩
      · rintro ⟨l, r, h⟩
        cases l with
        | nil =>
          simp only [List.nil_append, List.cons.injEq] at h
          exact Or.inl ⟨h.1, h.2.1⟩
        | cons x l =>
          simp only [List.cons_append, List.cons.injEq] at h
          exact Or.inr ⟨l, r, h.2⟩

theorem lemma_groups_iff (body : List Char) :
    ((∀ c ∈ body, isBodyChar 10 c = true) ∧ bodyOk body = true) ↔ DigitGroups body := by
  unfold DigitGroups
  have hd : (∀ l r, body ≠ l ++ '_' :: '_' :: r) ↔ hasDoubleUnderscore body = false := by
    rw [← Bool.not_eq_true, lemma_double_iff]
    constructor
    · rintro h ⟨l, r, e⟩; exact h l r e
    · intro h l r e; exact h ⟨l, r, e⟩
  rw [hd]
  simp only [lemma_body_char_iff, bodyOk, Bool.and_eq_true, Bool.not_eq_true', bne_iff_ne, ne_eq,
    List.isEmpty_eq_false_iff]
  constructor
  · rintro ⟨h1, ⟨⟨h2, h3⟩, h4⟩, h5⟩; exact ⟨h2, h1, h3, h4, h5⟩
  · rintro ⟨h2, h1, h3, h4, h5⟩; exact ⟨h1, ⟨⟨h2, h3⟩, h4⟩, h5⟩

theorem lemma_value_foldl (body : List Char) (h : ∀ c ∈ body, c ∈ decChars ∨ c = '_') (acc : Nat) :
    body.foldl (bodyStep 10) acc = Nat.ofDigitChars 10 (body.filter (fun c => c != '_')) acc := by
  induction body generalizing acc with
  | nil => simp
  | cons a body ih =>
    have ih' := ih (fun c hc => h c (by simp [hc]))
    rcases h a (by simp) with ha | rfl
    · have hf := lemma_decChars_facts a ha
      have hfl : (a :: body).filter (fun c => c != '_') = a :: body.filter (fun c => c != '_') := by
        simp [hf.2.2]
      rw [List.foldl_cons, hfl, Nat.ofDigitChars_cons, ih']
      simp only [bodyStep, hf.2.1]
      rw [Nat.mul_comm]
    · have hfl : ('_' :: body).filter (fun c => c != '_') = body.filter (fun c => c != '_') := by
        simp
      rw [List.foldl_cons, hfl, ih']
      rfl

theorem lemma_value_dec (body : List Char) (h : ∀ c ∈ body, c ∈ decChars ∨ c = '_') :
    bodyValue 10 body = decValue body := lemma_value_foldl body h 0

end Oslo.Scalars
