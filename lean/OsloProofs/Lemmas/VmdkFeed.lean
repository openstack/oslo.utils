/-
VMDK, sparse-header mode: feeding a whole chunk list (InspectWrapper's discipline: an inspector that
raised is not fed again) from the initial state, by induction over the chunks with the step lemmas
of VmdkStep.lean.  Result: `VmdkOutcome` — the final state is a `vPost` or a `vErr` state whose
verdict-relevant content is a function of the concatenated bytes.
-/
import OsloProofs.Lemmas.VmdkStep
namespace Oslo.Insp

/-- what the footer end-capture region holds: the last 1536 bytes of the stream from the start of
    the chunk that created it (which lies before byte 64) -/
def FootInv (fd p : Bytes) : Prop := ∃ b, b < 64 ∧ b ≤ p.length ∧ fd = lastN 1536 (p.drop b)

theorem lemma_footInv_step (fd p c : Bytes) (h : FootInv fd p) : FootInv (lastN 1536 (fd ++ c)) (p ++ c) := by
  obtain ⟨b, hb, hbl, hfd⟩ := h
  refine ⟨b, hb, by rw [List.length_append]; omega, ?_⟩
  rw [hfd, lemma_lastN_lastN, List.drop_append_of_le_length hbl]

theorem lemma_vmdk_parse_append (q r : Bytes) (h : 64 ≤ q.length) :
    parseSparseHeader (q ++ r) 0 = parseSparseHeader q 0 := by
  have : slice (q ++ r) 0 (0 + Gen.vmdkMinSparseHeader) = slice q 0 (0 + Gen.vmdkMinSparseHeader) := by
    simp only [slice, Gen.vmdkMinSparseHeader, List.drop_zero]
    exact List.take_append_of_le_length (by omega)
  unfold parseSparseHeader
  rw [this]

section
variable {foot : Bool} {hd : Bytes} {dl : Nat} {H : SparseHeader}

theorem lemma_post_feed (hp : parseSparseHeader hd 0 = .ok H) (hlen : 64 ≤ hd.length) (hok : HdrOK H)
    (hds : H.descSec * 512 = Gen.vmdkDescOffset) (hfoot : foot = decide (H.gdOffset = Gen.vmdkGdAtEnd))
    (chunks : List Bytes) : ∀ (p : Bytes) (fo : Nat) (fd : Bytes) (dt : Option Bytes) (vt : Bytes),
    FootInv fd p → DescSt (sliceOf p 512 dl) dl dt vt →
    ∃ fo' fd' dt' vt',
      feed (vPost foot p.length hd (sliceOf p 512 dl) dl fo fd false dt vt) chunks =
        (vPost foot (p ++ chunks.flatten).length hd (sliceOf (p ++ chunks.flatten) 512 dl) dl fo' fd' false dt' vt',
         none) ∧
      FootInv fd' (p ++ chunks.flatten) ∧ DescSt (sliceOf (p ++ chunks.flatten) 512 dl) dl dt' vt' := by
  induction chunks with
  | nil =>
    intro p fo fd dt vt hf hst
    exact ⟨fo, fd, dt, vt, by simp [feed], by simpa using hf, by simpa using hst⟩
  | cons c cs ih =>
    intro p fo fd dt vt hf hst
    obtain ⟨fo1, dt1, vt1, heat, hst1⟩ := lemma_post_step c fo fd hp hlen hok hds hfoot hst
    have hf1 := lemma_footInv_step fd p c hf
    rw [← List.length_append] at heat
    obtain ⟨fo2, fd2, dt2, vt2, hfeed, hf2, hst2⟩ := ih (p ++ c) fo1 _ dt1 vt1 hf1 hst1
    refine ⟨fo2, fd2, dt2, vt2, ?_, ?_, ?_⟩
    · simp only [feed, heat, List.flatten_cons, ← List.append_assoc]
      exact hfeed
    · simpa [List.append_assoc] using hf2
    · simpa [List.append_assoc] using hst2


variable (foot dl H)

/-- outcome of feeding a whole stream `s` in sparse-header mode -/
def VmdkOutcome (s : Bytes) (r : Insp × Option Err) : Prop :=
  (H.descSec * 512 = Gen.vmdkDescOffset ∧
    ∃ hd fo fd dt vt, r = (vPost foot s.length hd (sliceOf s 512 dl) dl fo fd false dt vt, none) ∧
      parseSparseHeader hd 0 = .ok H ∧ 64 ≤ hd.length ∧ FootInv fd s ∧ DescSt (sliceOf s 512 dl) dl dt vt) ∨
  (H.descSec * 512 ≠ Gen.vmdkDescOffset ∧
    ∃ n hd d0 dt, r = (vErr foot n hd d0 false dt, some .imageFormat) ∧
      parseSparseHeader hd 0 = .ok H ∧ 64 ≤ hd.length ∧ (vDesc0R d0).complete = true)

variable {foot dl H}

theorem lemma_pre_feed (hok : HdrOK H) (hfoot : foot = decide (H.gdOffset = Gen.vmdkGdAtEnd))
    (hdl : dl = min (H.descNum * 512) Gen.vmdkDescMaxSize)
    (chunks : List Bytes) : ∀ (p d0 : Bytes) (dt : Option Bytes),
    p.length < 64 → PlainInv (vDesc0R d0) p → NulAt5 (p ++ chunks.flatten) → 64 ≤ (p ++ chunks.flatten).length →
    parseSparseHeader (p ++ chunks.flatten) 0 = .ok H →
    VmdkOutcome foot dl H (p ++ chunks.flatten) (feed (vPre p.length (sliceOf p 0 512) d0 dt formatNotFound) chunks) := by
  induction chunks with
  | nil =>
    intro p d0 dt h64 _ _ hge _
    simp at hge; omega
  | cons c cs ih =>
    intro p d0 dt h64 hinv h5 hge hpar
    have hassoc : p ++ (c :: cs).flatten = (p ++ c) ++ cs.flatten := by simp
    rw [hassoc] at h5 hge hpar ⊢
    by_cases hlt : (p ++ c).length < 64
    · obtain ⟨d0', dt', vt', heat, hinv', hvt⟩ := lemma_pre_step c dt formatNotFound hlt hinv
      obtain rfl := hvt (lemma_nulAt5_prefix (List.prefix_append _ _) h5) rfl
      rw [← List.length_append] at heat
      simp only [feed, heat]
      exact ih (p ++ c) d0' dt' hlt hinv' h5 hge hpar
    · have hq64 : 64 ≤ (p ++ c).length := by omega
      have hpar' : parseSparseHeader (p ++ c) 0 = .ok H := by
        rw [← lemma_vmdk_parse_append (p ++ c) cs.flatten hq64]; exact hpar
      have hhl : 64 ≤ (sliceOf (p ++ c) 0 512).length := by rw [lemma_sliceOf_length]; omega
      have hparh : parseSparseHeader (sliceOf (p ++ c) 0 512) 0 = .ok H := by
        rw [lemma_vmdk_parse_sliceOf0]; exact hpar'
      have ht := lemma_transition_step c dt h64 hq64 hinv hpar' hok hfoot hdl
      by_cases hds : H.descSec * 512 = Gen.vmdkDescOffset
      · obtain ⟨fo1, dt1, vt1, heat, hst1⟩ := ht.1 hds
        rw [← List.length_append] at heat
        have hf1 : FootInv (lastN 1536 c) (p ++ c) :=
          ⟨p.length, h64, by rw [List.length_append]; omega, by simp⟩
        obtain ⟨fo2, fd2, dt2, vt2, hfeed, hf2, hst2⟩ :=
          lemma_post_feed hparh hhl hok hds hfoot cs (p ++ c) fo1 _ dt1 vt1 hf1 hst1
        simp only [feed, heat]
        exact Or.inl ⟨hds, _, fo2, fd2, dt2, vt2, hfeed, hparh, hhl, hf2, hst2⟩
      · obtain ⟨d0', heat, hc⟩ := ht.2 hds
        simp only [feed, heat]
        exact Or.inr ⟨hds, _, _, d0', dt, rfl, hparh, hhl, hc⟩


theorem lemma_pre_feed_short (chunks : List Bytes) : ∀ (p d0 : Bytes) (dt : Option Bytes),
    (p ++ chunks.flatten).length < 64 → PlainInv (vDesc0R d0) p → NulAt5 (p ++ chunks.flatten) →
    ∃ d0' dt', feed (vPre p.length (sliceOf p 0 512) d0 dt formatNotFound) chunks =
      (vPre (p ++ chunks.flatten).length (sliceOf (p ++ chunks.flatten) 0 512) d0' dt' formatNotFound, none) := by
  induction chunks with
  | nil =>
    intro p d0 dt _ _ _
    exact ⟨d0, dt, by simp [feed]⟩
  | cons c cs ih =>
    intro p d0 dt hlt hinv h5
    have hassoc : p ++ (c :: cs).flatten = (p ++ c) ++ cs.flatten := by simp
    rw [hassoc] at hlt h5 ⊢
    have hlt' : (p ++ c).length < 64 := by
      rw [List.length_append] at hlt; omega
    obtain ⟨d0', dt', vt', heat, hinv', hvt⟩ := lemma_pre_step c dt formatNotFound hlt' hinv
    obtain rfl := hvt (lemma_nulAt5_prefix (List.prefix_append _ _) h5) rfl
    rw [← List.length_append] at heat
    simp only [feed, heat]
    exact ih (p ++ c) d0' dt' hlt hinv' h5

theorem lemma_vmdk_init (s0 : Insp) (h0 : Insp.init .vmdk = some s0) :
    s0 = vPre ([] : Bytes).length (sliceOf [] 0 512) [] none formatNotFound := by
  rw [lemma_init_eq h0]
  rfl

theorem lemma_vmdk_plainInv_init : PlainInv (vDesc0R []) [] := by
  simp [PlainInv, vDesc0R, sliceOf]

/-- **the state after feeding any chunking of a sparse-header stream** -/
theorem lemma_vmdk_feed (hok : HdrOK H) (hfoot : foot = decide (H.gdOffset = Gen.vmdkGdAtEnd))
    (hdl : dl = min (H.descNum * 512) Gen.vmdkDescMaxSize)
    (s0 : Insp) (h0 : Insp.init .vmdk = some s0) (chunks : List Bytes)
    (h5 : NulAt5 chunks.flatten) (hge : 64 ≤ chunks.flatten.length)
    (hpar : parseSparseHeader chunks.flatten 0 = .ok H) :
    VmdkOutcome foot dl H chunks.flatten (feed s0 chunks) := by
  rw [lemma_vmdk_init s0 h0]
  have := lemma_pre_feed hok hfoot hdl chunks [] [] none (by simp) lemma_vmdk_plainInv_init
    (by simpa using h5) (by simpa using hge) (by simpa using hpar)
  simpa using this

theorem lemma_vmdk_feed_short (s0 : Insp) (h0 : Insp.init .vmdk = some s0) (chunks : List Bytes)
    (h5 : NulAt5 chunks.flatten) (hlt : chunks.flatten.length < 64) :
    ∃ n hd d0 dt, feed s0 chunks = (vPre n hd d0 dt formatNotFound, none) := by
  rw [lemma_vmdk_init s0 h0]
  obtain ⟨d0', dt', h⟩ := lemma_pre_feed_short chunks [] [] none (by simpa using hlt) lemma_vmdk_plainInv_init
    (by simpa using h5)
  exact ⟨_, _, d0', dt', h⟩

end
end Oslo.Insp
