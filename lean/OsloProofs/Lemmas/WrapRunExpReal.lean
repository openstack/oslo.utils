/-
The expected inspector's run (`xrun`) for the model inspectors: how the read through a wrapper
with an expected format ends, as a function of the bytes — for the fixed-region formats, and for
VMDK in sparse-header mode and on streams it cannot match.
-/
import OsloProofs.Lemmas.WrapRunExp
import OsloProofs.Lemmas.VmdkNoMatch
import OsloProofs.Props.C03Stable
namespace Oslo.Insp

/-- the decision `_process_chunk` reads off the expected inspector's state after a chunk it ate
    without raising -/
def decI (st : Insp) : POut := if st.complete then ofMatch (formatMatch st) else .done

theorem lemma_decOf_none (st : Insp) : decOf realOps (st, none) = decI st := rfl

theorem lemma_decOf_some (st : Insp) (e : Err) : decOf realOps (st, some e) = .raised e := rfl

theorem lemma_decI_view (a b : Insp) (h : view a = view b) : decI a = decI b := by
  have h1 : a.complete = b.complete := congrArg (fun v => v.2.1) h
  have h2 : formatMatch a = formatMatch b := congrArg (fun v => v.2.2) h
  simp only [decI, h1, h2]

theorem lemma_good_feed : ∀ (cs : List Bytes) (s : Insp), Good s →
    (feed s cs).2 = none ∧ Good (feed s cs).1 ∧ (s.complete = true → view (feed s cs).1 = view s) := by
  intro cs
  induction cs with
  | nil => intro s hg; exact ⟨rfl, hg, fun _ => rfl⟩
  | cons c cs ih =>
    intro s hg
    obtain ⟨hne, hg', hfr⟩ := lemma_good_step s c hg
    rw [lemma_feed_cons, if_pos hne]
    obtain ⟨i1, i2, i3⟩ := ih (eatChunk s c).1 hg'
    refine ⟨i1, i2, fun hc => ?_⟩
    have hv := hfr hc
    have hc' : (eatChunk s c).1.complete = true := by
      have : (eatChunk s c).1.complete = s.complete := congrArg (fun v => v.2.1) hv
      rw [this]; exact hc
    rw [i3 hc', hv]

theorem lemma_feed_static_eq (f : Fmt) (hf : f.static = true) (s0 : Insp) (h0 : Insp.init f = some s0)
    (c1 c2 : List Bytes) (h : c1.flatten = c2.flatten) : feed s0 c1 = feed s0 c2 := by
  obtain ⟨q, hq⟩ := lemma_feed_static f hf s0 h0
  rw [hq, hq, h]

theorem lemma_decI_init (f : Fmt) (s0 : Insp) (h0 : Insp.init f = some s0) : decI s0 = .done := by
  have hall : Fmt.all.all (fun f => match Insp.init f with
      | some s => decide (decI s = .done) | none => true) = true := by decide
  have := List.all_eq_true.mp hall f (by cases f <;> decide)
  rw [h0] at this
  simpa using this

/-- fixed-region formats: the feed is a function of the bytes, `complete` is monotone and what
    `_process_chunk` reads of a complete inspector is frozen (`lemma_good_feed`) -/
theorem lemma_xrun_static (f : Fmt) (hf : f.static = true) (s0 : Insp) (h0 : Insp.init f = some s0)
    (cs : List Bytes) : (xrun realOps s0 cs).2 = decI (feed s0 [cs.flatten]).1 := by
  have hg := init_good f hf s0 h0
  refine xrun_eq_of_stable realOps s0 cs (fun q => decI (feed s0 [q]).1) ?_ ?_ ?_
  · intro pre c post _
    rw [gfeed_real, lemma_feed_static_eq f hf s0 h0 (pre ++ [c]) [(pre ++ [c]).flatten] (by simp)]
    have : feed s0 [(pre ++ [c]).flatten] = ((feed s0 [(pre ++ [c]).flatten]).1, none) :=
      Prod.ext rfl (lemma_good_feed _ s0 hg).1
    rw [this]
    rfl
  · intro q r
    obtain ⟨hne, hgq, _⟩ := lemma_good_feed [q] s0 hg
    have hqr : feed s0 [q ++ r] = feed (feed s0 [q]).1 [r] := by
      rw [lemma_feed_static_eq f hf s0 h0 [q ++ r] ([q] ++ [r]) (by simp), ← gfeed_real,
        gfeed_snoc, gfeed_real, hne, ← gfeed_real _ (feed s0 [q]).1, gfeed_single]
      rfl
    by_cases hc : (feed s0 [q]).1.complete = true
    · exact .inr (by rw [hqr]; exact (lemma_decI_view _ _ ((lemma_good_feed [r] _ hgq).2.2 hc)).symm)
    · exact .inl (by simp [decI, hc])
  · show decI (feed s0 [[]]).1 = .done
    rw [lemma_feed_static_eq f hf s0 h0 [[]] [] rfl]
    exact lemma_decI_init f s0 h0

theorem lemma_vPre_dec (n : Nat) (hd d0 : Bytes) (dt : Option Bytes) (vt : Bytes) (h : hd.length < 64) :
    decI (vPre n hd d0 dt vt) = .done := by
  simp [decI, Insp.complete, vPre, lemma_vmdk_hdr_incomplete hd h]

theorem lemma_vmdk_sparse_prefix (s0 : Insp) (h0 : Insp.init .vmdk = some s0) (L : List Bytes) (r : Bytes)
    (hs : VmdkSparse (L.flatten ++ r)) :
    decOf realOps (gfeed realOps s0 L) =
      if L.flatten.length < 64 then .done
      else if (hdrOf (L.flatten ++ r)).descSec * 512 = Gen.vmdkDescOffset then .done else .raised .imageFormat := by
  obtain ⟨hlen, hsig, hver, _⟩ := hs
  have h5s : NulAt5 (L.flatten ++ r) := lemma_nulAt5_of_ver _ hlen (by
    have : (hdrOf (L.flatten ++ r)).ver = leNat (slice (L.flatten ++ r) 4 8) := rfl
    rw [← this]; omega)
  have h5 : NulAt5 L.flatten := lemma_nulAt5_prefix (List.prefix_append _ _) h5s
  rw [gfeed_real]
  by_cases hlt : L.flatten.length < 64
  · rw [if_pos hlt, lemma_vmdk_init s0 h0]
    obtain ⟨d0', dt', hf⟩ := lemma_pre_feed_short L [] [] none (by simpa using hlt) lemma_vmdk_plainInv_init
      (by simpa using h5)
    rw [hf]
    simp only [List.nil_append]
    rw [lemma_decOf_none]
    exact lemma_vPre_dec _ _ d0' dt' formatNotFound (by rw [lemma_sliceOf_length]; omega)
  · rw [if_neg hlt]
    have hge : 64 ≤ L.flatten.length := by omega
    have hpar : parseSparseHeader L.flatten 0 = .ok (hdrOf (L.flatten ++ r)) := by
      rw [← lemma_vmdk_parse_append L.flatten r hge]
      exact lemma_vmdk_parse_hdrOf _ hlen
    have hok : HdrOK (hdrOf (L.flatten ++ r)) := ⟨hsig, hver⟩
    have hout := lemma_vmdk_feed hok rfl rfl s0 h0 L h5 hge hpar
    rcases hout with ⟨hds, hd, fo, fd, dt, vt, hr, hp, hl, _, _⟩ | ⟨hds, n, hd, d0, dt, hr, _, _, _⟩
    · rw [hr, if_pos hds, lemma_decOf_none]
      have hm := lemma_vmdk_startsWith_kdmv hp hok.sig
      simp only [decI, lemma_post_formatMatch, hm, ofMatch, ite_self]
    · rw [hr, if_neg hds, lemma_decOf_some]

theorem lemma_xrun_vmdk_sparse (s0 : Insp) (h0 : Insp.init .vmdk = some s0) (cs : List Bytes)
    (hs : VmdkSparse cs.flatten) :
    (xrun realOps s0 cs).2 =
      if (hdrOf cs.flatten).descSec * 512 = Gen.vmdkDescOffset then .done else .raised .imageFormat := by
  rw [xrun_eq_of_threshold realOps s0 cs 64
    (if (hdrOf cs.flatten).descSec * 512 = Gen.vmdkDescOffset then .done else .raised .imageFormat) (by omega)
    (fun pre c post hcs => by
      have hfl : cs.flatten = (pre ++ [c]).flatten ++ post.flatten := by rw [hcs]; simp
      rw [hfl] at hs ⊢
      exact lemma_vmdk_sparse_prefix s0 h0 (pre ++ [c]) post.flatten hs)]
  exact if_neg (by have := hs.1; omega)

theorem lemma_vmdk_nomatch_prefix (s0 : Insp) (h0 : Insp.init .vmdk = some s0) (L : List Bytes) (r : Bytes)
    (h : VmdkNoMatch (L.flatten ++ r)) :
    decOf realOps (gfeed realOps s0 L) =
      if L.flatten.length < 64 then .done else .raised .imageFormat := by
  obtain ⟨n, hd, d0, dt, vt, hf, _, hlen⟩ := lemma_vmdk_feed_nomatch s0 h0 L r h
  rw [gfeed_real, hf]
  split
  · exact lemma_vPre_dec n hd d0 dt vt (by omega)
  · rfl

theorem lemma_xrun_vmdk_nomatch (s0 : Insp) (h0 : Insp.init .vmdk = some s0) (cs : List Bytes)
    (h : VmdkNoMatch cs.flatten) :
    (xrun realOps s0 cs).2 = if cs.flatten.length < 64 then .done else .raised .imageFormat :=
  xrun_eq_of_threshold realOps s0 cs 64 _ (by omega) (fun pre c post hcs => by
    have hfl : cs.flatten = (pre ++ [c]).flatten ++ post.flatten := by rw [hcs]; simp
    rw [hfl] at h
    exact lemma_vmdk_nomatch_prefix s0 h0 (pre ++ [c]) post.flatten h)

end Oslo.Insp
