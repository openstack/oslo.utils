/-
qcow2: the header-info callback.  `qemu_header_info` is always the function `qinfoR`
of the (single) header region.
-/
import OsloProofs.Lemmas.Engine
namespace Oslo.Insp

/-- what `region_complete` computes from the header region -/
def qinfoR (h : Region) : Option QcowInfo :=
  if h.complete && slice (slice h.data 0 32) 0 4 == qcowMagic then
    some { version := beNat (slice (slice h.data 0 32) 4 8), size := beNat (slice (slice h.data 0 32) 24 32) }
  else none

/-- a qcow2 inspector between chunks: one plain header region `h` of at least 32 bytes (what
    `region_complete` unpacks), and `qemu_header_info` computed from it -/
structure QShape (s : Insp) (h : Region) : Prop where
  fmt : s.fmt = .qcow2
  notFinished : s.finished = false
  regions : s.regions = [("header", h)]
  plain : h.isEnd = false
  noMin : h.minLength = none
  big : 32 ≤ h.length
  info : s.qcowInfo = qinfoR h

theorem lemma_stepRegion_plain (c : Bytes) (pos' : Nat) (r : Region) (hE : r.isEnd = false) :
    ∃ d, stepRegion c pos' r = { r with data := d } := by
  unfold stepRegion
  split
  · exact lemma_capture_plain r c pos' hE
  · exact ⟨r.data, rfl⟩

theorem lemma_qinfoR_incomplete (h : Region) (hc : h.complete = false) : qinfoR h = none := by
  rw [qinfoR, hc]
  rfl

theorem lemma_qcowRegionComplete (s : Insp) (h : Region) (hr : s.region "header" = .ok h)
    (h32 : 32 ≤ h.data.length) : qcowRegionComplete s = ({ s with qcowInfo := qinfoR h }, none) := by
  have : (slice h.data 0 32).length = 32 := by rw [lemma_slice_length]; omega
  simp only [qcowRegionComplete, hr, this, ne_eq, not_true_eq_false, if_false, qinfoR]
  split <;> rfl

theorem lemma_qcow_step (s : Insp) (h : Region) (c : Bytes) (hs : QShape s h) :
    let h' := stepRegion c (s.total + c.length) h
    eatChunk s c = ({ s with total := s.total + c.length, regions := [("header", h')],
                             qcowInfo := qinfoR h' }, none) ∧
    QShape { s with total := s.total + c.length, regions := [("header", h')], qcowInfo := qinfoR h' } h' := by
  obtain ⟨hfmt, hfin, hreg, hplain, hnomin, hbig, hinfo⟩ := hs
  intro h'
  obtain ⟨d, hd⟩ : ∃ d, h' = { h with data := d } := lemma_stepRegion_plain c _ h hplain
  refine ⟨?_, ⟨hfmt, hfin, rfl, by rw [hd]; exact hplain, by rw [hd]; exact hnomin, by rw [hd]; exact hbig, rfl⟩⟩
  rw [lemma_eatChunk_static s c (by rw [hfmt]; rfl) hfin]
  simp only [afterCapture, hreg, List.map_cons, List.map_nil, List.filter_cons, List.filter_nil]
  show runCallbacks _ (List.map _ (if (h'.complete && _) = true then _ else _)) = _
  cases hc : h.complete
  · simp only [Bool.false_eq_true, if_false, List.map_nil, List.contains_nil, Bool.not_false, Bool.and_true]
    cases hc' : h'.complete
    · -- still incomplete: no callback, and there is no header info before or after
      simp only [Bool.false_eq_true, if_false, List.map_nil, runCallbacks, hinfo, lemma_qinfoR_incomplete _ hc,
        lemma_qinfoR_incomplete _ hc']
      rfl
    · -- newly complete: the callback computes the header info
      have hlen : 32 ≤ h'.data.length := by
        have : h'.complete = decide (h.length = h'.data.length) := by
          rw [hd, Region.complete]; simp only [hnomin, hplain, Bool.false_eq_true, if_false]
        rw [this, decide_eq_true_eq] at hc'
        omega
      simp only [if_true, List.map_cons, List.map_nil, runCallbacks, regionComplete, hfmt]
      rw [lemma_qcowRegionComplete _ h' ?_ hlen]
      rfl
  · -- complete before: the region is skipped and no callback runs
    have hsame : stepRegion c (s.total + c.length) h = h := by simp only [stepRegion, hplain, hc]; rfl
    simp only [hsame, if_true, List.map_cons, List.map_nil, List.contains_cons, List.contains_nil,
      BEq.rfl, Bool.or_false, Bool.not_true, Bool.and_false, Bool.false_eq_true, if_false, runCallbacks, hinfo]
    rw [show h' = h from hsame]

theorem lemma_qcow_feed (chunks : List Bytes) : ∀ (s : Insp) (h : Region), QShape s h →
    feed s chunks = ({ s with total := s.total + chunks.flatten.length,
                              regions := [("header", h.feed s.total chunks)],
                              qcowInfo := qinfoR (h.feed s.total chunks) }, none) := by
  induction chunks with
  | nil =>
    intro s h hs
    obtain ⟨_, _, hreg, _, _, _, hinfo⟩ := hs
    simp only [feed, Region.feed, List.flatten_nil, List.length_nil, Nat.add_zero, ← hreg, ← hinfo]
  | cons c cs ih =>
    intro s h hs
    obtain ⟨e1, e2⟩ := lemma_qcow_step s h c hs
    simp only [feed, e1]
    rw [ih _ _ e2]
    simp only [lemma_feed_step, List.flatten_cons, List.length_append, Nat.add_assoc]

end Oslo.Insp
