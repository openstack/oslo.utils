/-
The capture engine (OsloModel/Capture.lean).  First the algebra of `slice`, of `sliceOf` (the
stream bytes a plain region is meant to hold) and of `lastN` that every proof about retained bytes
uses; then what a plain region and an end-capture region hold after a prefix of the stream,
whatever the chunking.
-/
import OsloModel.Capture
namespace Oslo.Insp

/-- The kernel evaluates `String.toList` of a literal by encoding and decoding UTF-8, which is slow;
    rewriting with this first leaves an explicit list of characters to evaluate. -/
theorem ascii_ofList (l : List Char) : ascii (String.ofList l) = l.map (fun c => UInt8.ofNat c.toNat) := by
  rw [ascii, String.toList_ofList]

theorem lemma_eq_min_iff (a b : Nat) : a = min a b ↔ a ≤ b :=
  ⟨fun h => h ▸ Nat.min_le_right a b, fun h => (Nat.min_eq_left h).symm⟩

/-- the stream bytes a plain region is meant to hold -/
def sliceOf (p : Bytes) (off len : Nat) : Bytes := (p.drop off).take len

theorem lemma_sliceOf_prefix (p c : Bytes) (off len : Nat) :
    sliceOf p off len <+: sliceOf (p ++ c) off len := by
  simp only [sliceOf, List.drop_append, List.take_append]
  exact List.prefix_append _ _

theorem lemma_sliceOf_mono {q s : Bytes} (h : q <+: s) (off len : Nat) :
    sliceOf q off len <+: sliceOf s off len := by
  obtain ⟨t, rfl⟩ := h
  exact lemma_sliceOf_prefix q t off len

theorem lemma_sliceOf_length (p : Bytes) (off len : Nat) :
    (sliceOf p off len).length = min len (p.length - off) := by
  simp [sliceOf]

theorem lemma_sliceOf_self_length (p : Bytes) (off len : Nat) :
    sliceOf p off (sliceOf p off len).length = sliceOf p off len := by
  simp only [sliceOf, List.length_take]
  rw [List.take_eq_take_iff, Nat.min_assoc, Nat.min_self]

theorem lemma_sliceOf_length_of_le (s : Bytes) (o l : Nat) (h : o + l ≤ s.length) : l = (sliceOf s o l).length := by
  rw [lemma_sliceOf_length]; omega

theorem lemma_sliceOf_end (s : Bytes) (o L : Nat) (h : 0 < (sliceOf s o L).length) :
    o + (sliceOf s o L).length ≤ s.length := by
  rw [lemma_sliceOf_length] at h ⊢; omega

theorem lemma_sliceOf_nil (p : Bytes) (o l : Nat) (h : p.length ≤ o) : sliceOf p o l = [] := by
  simp [sliceOf, List.drop_eq_nil_of_le h]

/-- a slice that is all there does not change when the stream goes on -/
theorem lemma_sliceOf_append_of_full (p c : Bytes) (o l : Nat) (h : l = (sliceOf p o l).length) :
    sliceOf (p ++ c) o l = sliceOf p o l := by
  rw [lemma_sliceOf_length] at h
  simp only [sliceOf, List.drop_append]
  exact List.take_append_of_le_length (by rw [List.length_drop]; omega)

theorem lemma_sliceOf_extend (x p c : Bytes) (o : Nat) (h : x = sliceOf p o x.length) :
    x = sliceOf (p ++ c) o x.length := by
  rw [lemma_sliceOf_append_of_full p c o x.length (by rw [← h])]
  exact h

theorem lemma_sliceOf_within {q s : Bytes} (h : q <+: s) (off len : Nat) (hl : off + len ≤ q.length) :
    sliceOf s off len = sliceOf q off len := by
  obtain ⟨t, rfl⟩ := h
  exact lemma_sliceOf_append_of_full q t off len (lemma_sliceOf_length_of_le q off len hl)

theorem lemma_sliceOf_mid (a b c : Bytes) (o l : Nat) (ha : a.length = o) (hb : b.length = l) :
    sliceOf (a ++ b ++ c) o l = b := by
  subst ha hb
  simp [sliceOf]

theorem lemma_sliceOf_append_right (a b : Bytes) (o l : Nat) (ha : a.length = o) (hb : b.length = l) :
    sliceOf (a ++ b) o l = b := by
  rw [← List.append_nil (a ++ b), lemma_sliceOf_mid a b [] o l ha hb]

theorem lemma_take_sliceOf0 (s : Bytes) (L k : Nat) (h : k ≤ L) : (sliceOf s 0 L).take k = s.take k := by
  rw [sliceOf, List.drop_zero, List.take_take, Nat.min_eq_left h]

theorem lemma_sliceOf_as_slice (p : Bytes) (off len : Nat) : sliceOf p off len = slice p off (off + len) := by
  rw [sliceOf, slice, List.take_drop]

theorem lemma_slice_length (d : Bytes) (a e : Nat) : (slice d a e).length = min e d.length - a := by
  simp [slice]

theorem lemma_slice_length_of_le (d : Bytes) (a e : Nat) (h : e ≤ d.length) : (slice d a e).length = e - a := by
  rw [lemma_slice_length, Nat.min_eq_left h]

theorem lemma_slice_length_add (b : Bytes) (x n : Nat) (h : x + n ≤ b.length) : (slice b x (x + n)).length = n := by
  rw [lemma_slice_length_of_le b x (x + n) h, Nat.add_sub_cancel_left]

theorem lemma_slice_slice (x : Bytes) (a e a' e' : Nat) (h : a + e' ≤ e) :
    slice (slice x a e) a' e' = slice x (a + a') (a + e') := by
  simp only [slice, List.take_drop, List.drop_drop, List.take_take]
  rw [Nat.min_eq_left h]

theorem lemma_slice_slice0 (d : Bytes) (n a e : Nat) (h : e ≤ n) : slice (slice d 0 n) a e = slice d a e := by
  rw [lemma_slice_slice d 0 n a e (by omega), Nat.zero_add, Nat.zero_add]

theorem lemma_slice_sliceOf (s : Bytes) (o L a e : Nat) (h : e ≤ L) :
    slice (sliceOf s o L) a e = slice s (o + a) (o + e) := by
  rw [lemma_sliceOf_as_slice, lemma_slice_slice _ _ _ _ _ (by omega)]

theorem lemma_slice_sliceOf0 (s : Bytes) (L a e : Nat) (h : e ≤ L) : slice (sliceOf s 0 L) a e = slice s a e := by
  rw [lemma_slice_sliceOf s 0 L a e h, Nat.zero_add, Nat.zero_add]

theorem lemma_slice_prefix {a b : Bytes} (h : a <+: b) (x e : Nat) (he : e ≤ a.length) :
    slice b x e = slice a x e := by
  obtain ⟨t, rfl⟩ := h
  simp only [slice]
  rw [List.take_append_of_le_length he]

theorem lemma_take_prefix {a b : Bytes} (h : a <+: b) (e : Nat) (he : e ≤ a.length) :
    b.take e = a.take e :=
  lemma_slice_prefix h 0 e he

theorem lemma_startsWith_prefix {q s : Bytes} (h : q <+: s) (p : Bytes) (hl : p.length ≤ q.length) :
    startsWith s p = startsWith q p := by
  rw [startsWith, startsWith, lemma_take_prefix h _ hl]

theorem lemma_startsWith_sliceOf0 (s p : Bytes) (L : Nat) (h : p.length ≤ L) :
    startsWith (sliceOf s 0 L) p = startsWith s p := by
  rw [startsWith, startsWith, lemma_take_sliceOf0 s L _ h]

theorem lemma_slice_append_right (x y : Bytes) (n a e : Nat) (hn : x.length = n) :
    slice (x ++ y) (n + a) (n + e) = slice y a e := by
  subst hn
  simp only [slice, List.take_length_add_append, List.drop_length_add_append]

theorem lemma_complete_plain (r : Region) (hEnd : r.isEnd = false) (hm : r.minLength = none) :
    r.complete = decide (r.length = r.data.length) := by
  rw [Region.complete, hm, hEnd]
  rfl

theorem lemma_take_take_append {α} (x c : List α) (L : Nat) :
    ((x.take L) ++ c).take L = (x ++ c).take L := by
  by_cases h : L ≤ x.length
  · rw [List.take_append_of_le_length (by simp; omega), List.take_append_of_le_length h, List.take_take]
    simp
  · rw [List.take_of_length_le (l := x) (by omega)]

theorem lemma_capture_step (r : Region) (p c : Bytes) (hEnd : r.isEnd = false)
    (h : r.data = sliceOf p r.offset r.length) :
    r.capture c (p.length + c.length) =
      { r with data := sliceOf (p ++ c) r.offset r.length } := by
  obtain ⟨rid, off, len, ml, data, isEnd, endDone⟩ := r
  simp only [sliceOf] at hEnd h ⊢
  subst hEnd h
  simp only [Region.capture, Bool.false_eq_true, if_false, Nat.add_sub_cancel, List.drop_append]
  split
  · -- the chunk touches the region: the lead gap is `off - |p|` either way
    have : (if p.length < off then off - p.length else 0) = off - p.length := by
      split
      · rfl
      · exact (Nat.sub_eq_zero_of_le (Nat.le_of_not_lt ‹_›)).symm
    rw [this, lemma_take_take_append]
  · -- the chunk lies wholly after the region, or the stream has not reached it
    congr 1
    by_cases h1 : p.length + c.length < off
    · rw [List.drop_eq_nil_of_le (as := p) (Nat.le_of_lt (Nat.lt_of_le_of_lt (Nat.le_add_right _ _) h1)),
        List.drop_eq_nil_of_le (as := c) (Nat.le_sub_of_add_le' (Nat.le_of_lt h1))]
      rfl
    · rw [List.take_append_of_le_length (by simp; omega)]

theorem lemma_capture_plain (r : Region) (c : Bytes) (pos : Nat) (hEnd : r.isEnd = false) :
    ∃ d, r.capture c pos = { r with data := d } := by
  unfold Region.capture
  rw [if_neg (by rw [hEnd]; decide)]
  dsimp only
  split
  · exact ⟨_, rfl⟩
  · exact ⟨r.data, rfl⟩

/-- the invariant of a plain region after the prefix `p` has been streamed: with `min_length` a
    region stops capturing as soon as it is complete, so it holds a prefix of its slice -/
def PlainInv (r : Region) (p : Bytes) : Prop :=
  r.data <+: sliceOf p r.offset r.length ∧
  (r.complete = false → r.data = sliceOf p r.offset r.length)

theorem lemma_plain_step_data (r : Region) (p c : Bytes) (hEnd : r.isEnd = false) (h : PlainInv r p) :
    ∃ d, (if r.isEnd || !r.complete then r.capture c (p.length + c.length) else r) = { r with data := d } ∧
      PlainInv { r with data := d } (p ++ c) := by
  cases hc : r.complete
  · refine ⟨sliceOf (p ++ c) r.offset r.length, ?_, List.prefix_refl _, fun _ => rfl⟩
    simp only [hEnd, Bool.not_false, Bool.or_true, if_true, lemma_capture_step r p c hEnd (h.2 hc)]
  · refine ⟨r.data, ?_, h.1.trans (lemma_sliceOf_prefix p c _ _), fun h' => ?_⟩
    · rw [if_neg (by rw [hEnd]; decide)]
    · exact absurd (hc.symm.trans h') (by decide)

theorem lemma_plain_step (r : Region) (p c : Bytes) (hEnd : r.isEnd = false) (h : PlainInv r p) :
    let r' := if r.isEnd || !r.complete then r.capture c (p.length + c.length) else r
    PlainInv r' (p ++ c) ∧ r'.rid = r.rid ∧ r'.offset = r.offset ∧ r'.length = r.length ∧
      r'.minLength = r.minLength ∧ r'.isEnd = false ∧ r'.endDone = r.endDone := by
  obtain ⟨d, e, hinv⟩ := lemma_plain_step_data r p c hEnd h
  intro r'
  have : r' = { r with data := d } := e
  rw [this]
  exact ⟨hinv, rfl, rfl, rfl, rfl, hEnd, rfl⟩

theorem lemma_plain_feed (chunks : List Bytes) : ∀ (r : Region) (p : Bytes), r.isEnd = false → PlainInv r p →
    ∃ d, r.feed p.length chunks = { r with data := d } ∧ PlainInv { r with data := d } (p ++ chunks.flatten) := by
  induction chunks with
  | nil => intro r p _ h; exact ⟨r.data, rfl, by simpa using h⟩
  | cons c cs ih =>
    intro r p hEnd h
    obtain ⟨d, e, hinv⟩ := lemma_plain_step_data r p c hEnd h
    obtain ⟨d', e', hinv'⟩ := ih { r with data := d } (p ++ c) hEnd hinv
    refine ⟨d', ?_, by simpa using hinv'⟩
    rw [Region.feed, e, ← List.length_append, e']

/-- without `min_length` completeness means the whole slice is there, so the prefix is all of it -/
theorem lemma_plainInv_noMin (r : Region) (p : Bytes) (hEnd : r.isEnd = false) (hm : r.minLength = none)
    (h : PlainInv r p) : r.data = sliceOf p r.offset r.length := by
  cases hc : r.complete
  · exact h.2 hc
  · simp only [Region.complete, hm, hEnd, Bool.false_eq_true, if_false, decide_eq_true_eq] at hc
    exact h.1.eq_of_length_le (by rw [lemma_sliceOf_length]; omega)

theorem lemma_lastN_lastN (n : Nat) (a c : Bytes) : lastN n (lastN n a ++ c) = lastN n (a ++ c) := by
  unfold lastN
  split
  · rfl
  · have : a.drop (a.length - n) ++ c = (a ++ c).drop (a.length - n) :=
      (List.drop_append_of_le_length (Nat.sub_le ..)).symm
    rw [this, List.drop_drop, List.length_drop, List.length_append, Nat.sub_sub, Nat.add_comm _ n, ← Nat.sub_sub,
      Nat.add_sub_of_le (Nat.sub_le_sub_right (Nat.le_add_right _ _) _)]

theorem lemma_lastN_pos (n : Nat) (hn : n ≠ 0) (x : Bytes) : lastN n x = x.drop (x.length - n) := by
  rw [lastN, if_neg hn]

theorem lemma_lastN_append_right (a b : Bytes) (n : Nat) (hb : b.length = n) (hn : n ≠ 0) :
    lastN n (a ++ b) = b := by
  subst hb
  simp [lastN, hn]

theorem lemma_lastN_length (n : Nat) (hn : 0 < n) (a : Bytes) : (lastN n a).length = min n a.length := by
  rw [lastN, if_neg (Nat.ne_of_gt hn), List.length_drop, Nat.sub_sub_eq_min, Nat.min_comm]

theorem lemma_lastN_eq_sliceOf (n : Nat) (hn : 0 < n) (s : Bytes) :
    lastN n s = sliceOf s (s.length - (lastN n s).length) (lastN n s).length := by
  rw [lastN, if_neg (Nat.ne_of_gt hn), sliceOf, List.length_drop, Nat.sub_sub_self (Nat.sub_le _ _)]
  exact (List.take_of_length_le (by rw [List.length_drop]; exact Nat.le_refl _)).symm

/-- feeding an end-capture region keeps exactly the last `length` bytes of the stream and, from the
    first chunk on, the offset at which they start -/
theorem lemma_end_feed (chunks : List Bytes) : ∀ (r : Region) (p : Bytes), r.isEnd = true →
    r.data = lastN r.length p →
    r.feed p.length chunks =
      { r with data := lastN r.length (p ++ chunks.flatten),
               offset := if chunks = [] then r.offset
                         else (p ++ chunks.flatten).length - (lastN r.length (p ++ chunks.flatten)).length } := by
  induction chunks with
  | nil =>
    intro r p _ h
    simp only [Region.feed, List.flatten_nil, List.append_nil, if_true, ← h]
  | cons c cs ih =>
    intro r p hEnd h
    have hcap : r.capture c (p ++ c).length =
        { r with data := lastN r.length (p ++ c),
                 offset := (p ++ c).length - (lastN r.length (p ++ c)).length } := by
      simp only [Region.capture, hEnd, if_true, h, lemma_lastN_lastN, List.length_append]
    rw [Region.feed]
    simp only [hEnd, Bool.true_or, if_true, ← List.length_append]
    rw [hcap, ih { r with data := lastN r.length (p ++ c),
                          offset := (p ++ c).length - (lastN r.length (p ++ c)).length } (p ++ c) hEnd rfl]
    cases cs <;> simp [hEnd]
end Oslo.Insp
