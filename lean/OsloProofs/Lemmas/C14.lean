/-
Helper lemmas for C14 (not property theorems): the integer parser on plain digit strings, the round
trips render/parse in base 10 and 16, `str.lower()` against the generated table, the UUID rendering
and its decoration.
-/
import OsloModel.Scalars
import OsloProofs.Lemmas.C14Literal
namespace Oslo.Scalars

theorem lemma_intAscii_id (l : List Char) (h : ∀ c ∈ l, c.toNat < 127) : l.map intAscii = l := by
  induction l with
  | nil => rfl
  | cons a l ih =>
    have ha : a.toNat < 127 := h a (by simp)
    simp only [List.map_cons, intAscii, ha, if_true]
    rw [ih (fun c hc => h c (by simp [hc]))]

theorem lemma_noDouble (l : List Char) (h : '_' ∉ l) : hasDoubleUnderscore l = false := by
  fun_induction hasDoubleUnderscore l with
  | case1 => rfl
  | case2 => rfl
  | case3 a b rest ih =>
    have ha : a ≠ '_' := fun e => h (by simp [e])
    simp [ha, ih (fun hm => h (by simp [hm]))]

theorem lemma_bodyOk (l : List Char) (hne : l ≠ []) (h : '_' ∉ l) : bodyOk l = true := by
  have h1 : l.head? ≠ some '_' := fun e => h (List.mem_of_head? e)
  have h2 : l.getLast? ≠ some '_' := fun e => h (List.mem_of_getLast? e)
  simp [bodyOk, hne, h1, h2, lemma_noDouble l h]

theorem lemma_parse_digits (base : Nat) (sign ds : List Char) (hne : ds ≠ [])
    (hsign : sign = [] ∨ sign = ['+'] ∨ sign = ['-'])
    (hd : ∀ c ∈ ds, isDigitIn base c = true)
    (hx : base = 16 → skipHexPrefix ds = ds) :
    pyIntParse base (sign ++ ds)
      = if base = 10 ∧ overLimit ds.length = true then none
        else some (if sign = ['-'] then -(Int.ofNat (bodyValue base ds)) else Int.ofNat (bodyValue base ds)) := by
  have hb := fun c hc => (lemma_digit_body base c (hd c hc)).1
  have hus : '_' ∉ ds := fun hm => (lemma_digit_body base _ (hd _ hm)).2 rfl
  have hascii : ∀ c ∈ sign ++ ds, c.toNat < 127 := by
    intro c hc
    rcases List.mem_append.mp hc with hc | hc
    · rcases hsign with rfl | rfl | rfl <;> simp at hc <;> subst hc <;> decide
    · exact (lemma_body_facts base c (hb c hc)).1
  have hcount : digitCount ds = ds.length := by
    unfold digitCount
    rw [List.filter_eq_self.mpr]
    intro c hc
    have : c ≠ '_' := fun e => hus (e ▸ hc)
    simpa using this
  have := lemma_parse_literal base [] sign ds [] (by simp) (by simp) hsign hb (lemma_bodyOk ds hne hus)
    (by simpa using hx)
  rw [pyIntParse, lemma_intAscii_id _ hascii, ← hcount]
  simpa using this

theorem lemma_toDigits_dec (m : Nat) (c : Char) (h : c ∈ Nat.toDigits 10 m) : c ∈ decChars := by
  have hr := Char.isDigit_iff_toNat.mp (Nat.isDigit_of_mem_toDigits (by decide) (by decide) h)
  have := lemma_dec_ofNat c.toNat (by simp at hr; omega) (by simpa using hr.1)
  rwa [Char.ofNat_toNat] at this

theorem lemma_bodyValue_toDigits (m : Nat) : bodyValue 10 (Nat.toDigits 10 m) = m := by
  have hd := lemma_toDigits_dec m
  have hf : (Nat.toDigits 10 m).filter (fun c => c != '_') = Nat.toDigits 10 m :=
    List.filter_eq_self.mpr fun c hc => by simpa using (lemma_decChars_facts c (hd c hc)).2.2
  rw [lemma_value_dec _ (fun c hc => Or.inl (hd c hc)), decValue, hf]
  exact Nat.ofDigitChars_ten_toDigits

theorem lemma_render_eq (n : Int) :
    render n = (if n < 0 then ['-'] else []) ++ Nat.toDigits 10 n.natAbs := by
  unfold render
  split <;> rfl

theorem lemma_parse_render (n : Int) :
    pyIntParse 10 (render n) = if overLimit (numDigits n) = true then none else some n := by
  rw [lemma_render_eq, lemma_parse_digits 10 _ _ Nat.toDigits_ne_nil (by split <;> simp)
    (fun c hc => (lemma_digit10_iff c).mpr (lemma_toDigits_dec _ c hc)) (by simp),
    lemma_bodyValue_toDigits, numDigits]
  by_cases hn : n < 0 <;> simp [hn]
  · rw [Int.ofNat_natAbs_of_nonpos (Int.le_of_lt hn), Int.neg_neg]
  · rw [Int.natAbs_of_nonneg (Int.not_lt.mp hn)]

/-- the table has no ASCII key, and the only ASCII characters it lowers to are `i` (from the dotted
    capital I) and `k` (from the Kelvin sign) -/
theorem lemma_lowerTable : ∀ e ∈ Gen.lowerTable,
    128 ≤ e.1 ∧ e.2 ≠ [] ∧ ∀ x ∈ e.2, 128 ≤ (Char.ofNat x).toNat ∨ x = 105 ∨ x = 107 := by
  decide +kernel

theorem lemma_lowerChars_of_none (c : Char)
    (h : Gen.lowerTable.find? (fun e => e.1 == c.toNat) = none) : lowerChars c = [lowerChar c] := by
  unfold lowerChars; rw [h]

theorem lemma_lowerChars_ascii (c : Char) (h : c.toNat < 128) : lowerChars c = [lowerChar c] := by
  apply lemma_lowerChars_of_none
  rw [List.find?_eq_none]
  intro e he
  have := (lemma_lowerTable e he).1
  simp only [beq_iff_eq]
  omega

theorem lemma_pyLower_cons (c : Char) (u : List Char) : pyLower (c :: u) = lowerChars c ++ pyLower u := by
  unfold pyLower; rw [List.flatMap_cons]

theorem lemma_pyLower_ascii (l : List Char) (h : ∀ c ∈ l, c.toNat < 128) :
    pyLower l = l.map lowerChar := by
  induction l with
  | nil => rfl
  | cons a l ih =>
    rw [lemma_pyLower_cons, lemma_lowerChars_ascii a (h a (by simp)), ih (fun c hc => h c (by simp [hc]))]
    rfl

theorem lemma_lowerChar_ascii (c : Char) (h : (lowerChar c).toNat < 128) : c.toNat < 128 := by
  unfold lowerChar at h
  split at h
  · omega
  · exact h

/-- If every character of `pyLower u` lies in a set `A` of ASCII characters other than `i` and `k`,
    then no character of `u` is in the table: `u` is ASCII and lowered character by character. -/
theorem lemma_pyLower_into (A : Char → Prop) (hA : ∀ x, A x → x.toNat < 128 ∧ x ≠ 'i' ∧ x ≠ 'k')
    (u : List Char) (h : ∀ x ∈ pyLower u, A x) :
    pyLower u = u.map lowerChar ∧ ∀ c ∈ u, c.toNat < 128 := by
  induction u with
  | nil => exact ⟨rfl, by simp⟩
  | cons c u ih =>
    rw [lemma_pyLower_cons] at h ⊢
    obtain ⟨ih1, ih2⟩ := ih (fun x hx => h x (by simp [hx]))
    cases hf : Gen.lowerTable.find? (fun e => e.1 == c.toNat) with
    | none =>
      rw [lemma_lowerChars_of_none c hf] at h ⊢
      refine ⟨by rw [ih1]; rfl, ?_⟩
      intro x hx
      rcases List.mem_cons.mp hx with rfl | hx
      · exact lemma_lowerChar_ascii x (hA _ (h _ (by simp))).1
      · exact ih2 x hx
    | some e =>
      exfalso
      obtain ⟨_, hne, he⟩ := lemma_lowerTable e (List.mem_of_find?_eq_some hf)
      have hl : lowerChars c = e.2.map Char.ofNat := by unfold lowerChars; rw [hf]
      cases h2 : e.2 with
      | nil => exact hne h2
      | cons x xs =>
        have hx := hA _ (h (Char.ofNat x) (by rw [hl, h2]; simp))
        rcases he x (by rw [h2]; simp) with h128 | rfl | rfl
        · omega
        · exact hx.2.1 rfl
        · exact hx.2.2 rfl

theorem lemma_isSpace_lowerChar (c : Char) (h : isSpace (lowerChar c) = false) : isSpace c = false := by
  unfold lowerChar at h
  split at h
  · next hc =>
    have : ∀ n ∈ Gen.spaceCodes, ¬ (65 ≤ n ∧ n ≤ 90) := by decide
    cases hs : isSpace c with
    | false => rfl
    | true => exact absurd hc (this _ (by simpa [isSpace] using hs))
  · exact h

def lowerHexChars : List Char :=
  ['0', '1', '2', '3', '4', '5', '6', '7', '8', '9', 'a', 'b', 'c', 'd', 'e', 'f']

/-- what the proofs use of a hex digit -/
structure HexChar (c : Char) : Prop where
  digit : isDigitIn 16 c = true
  value : (digitVal c).map Nat.digitChar = some (lowerChar c)
  notX : c ≠ 'x' ∧ c ≠ 'X'
  undecorated : c ≠ 'u' ∧ isBrace c = false
  hyphen : c ≠ '-'
  ascii : c.toNat < 128

theorem lemma_hex_char_facts (c : Char) (h : c ∈ hexChars) : HexChar c :=
  have : ∀ c ∈ hexChars,
      isDigitIn 16 c = true ∧ (digitVal c).map Nat.digitChar = some (lowerChar c)
      ∧ (c ≠ 'x' ∧ c ≠ 'X') ∧ (c ≠ 'u' ∧ isBrace c = false) ∧ c ≠ '-' ∧ c.toNat < 128 := by
    decide +kernel
  let ⟨h1, h2, h3, h4, h5, h6⟩ := this c h
  ⟨h1, h2, h3, h4, h5, h6⟩

/-- what the proofs use of a lower-case hex digit; `plain` is what `lemma_pyLower_into` asks for -/
structure LowerHexChar (c : Char) : Prop where
  hex : c ∈ hexChars
  hyphen : c ≠ '-'
  lower : lowerChar c = c
  plain : c.toNat < 128 ∧ c ≠ 'i' ∧ c ≠ 'k'

theorem lemma_lowerHex_facts (c : Char) (h : c ∈ lowerHexChars) : LowerHexChar c :=
  have : ∀ c ∈ lowerHexChars,
      c ∈ hexChars ∧ c ≠ '-' ∧ lowerChar c = c ∧ c.toNat < 128 ∧ c ≠ 'i' ∧ c ≠ 'k' := by
    decide +kernel
  let ⟨h1, h2, h3, h4⟩ := this c h
  ⟨h1, h2, h3, h4⟩

theorem lemma_digitChar_lowerHex : ∀ d, d < 16 → Nat.digitChar d ∈ lowerHexChars := by
  decide +kernel

theorem lemma_lower_hex (c : Char) (h : lowerChar c ∈ lowerHexChars) : c ∈ hexChars := by
  unfold lowerChar at h
  split at h
  · next hc =>
    -- an upper-case letter whose lower-case form is at most `f`: one of `A`-`F`
    have h1 := (by decide +kernel : ∀ x ∈ lowerHexChars, x.toNat ≤ 102) _ h
    rw [lemma_toNat_ofNat _ (by omega)] at h1
    have := (by decide +kernel : ∀ n, n < 6 → Char.ofNat (n + 65) ∈ hexChars) (c.toNat - 65) (by omega)
    rwa [show c.toNat - 65 + 65 = c.toNat by omega, Char.ofNat_toNat] at this
  · exact (lemma_lowerHex_facts c h).hex

theorem lemma_pyLower_hex (u : List Char) (h : ∀ x ∈ pyLower u, x ∈ lowerHexChars) :
    pyLower u = u.map lowerChar ∧ (pyLower u).length = u.length ∧ ∀ c ∈ u, c ∈ hexChars := by
  have e := (lemma_pyLower_into (· ∈ lowerHexChars) (fun x hx => (lemma_lowerHex_facts x hx).plain) u h).1
  refine ⟨e, by rw [e, List.length_map], ?_⟩
  intro c hc
  apply lemma_lower_hex
  apply h
  rw [e]
  exact List.mem_map.mpr ⟨c, hc, rfl⟩

theorem lemma_hexFixed_length (w n : Nat) : (hexFixed w n).length = w := by
  induction w generalizing n with
  | zero => rfl
  | succ w ih => simp [hexFixed, ih]

theorem lemma_hexFixed_chars (w n : Nat) : ∀ c ∈ hexFixed w n, c ∈ lowerHexChars := by
  induction w generalizing n with
  | zero => intro c hc; simp [hexFixed] at hc
  | succ w ih =>
    intro c hc
    simp only [hexFixed, List.mem_append, List.mem_singleton] at hc
    rcases hc with hc | rfl
    · exact ih _ c hc
    · exact lemma_digitChar_lowerHex _ (Nat.mod_lt _ (by decide))

theorem lemma_pyLower_hexFixed (w n : Nat) : pyLower (hexFixed w n) = hexFixed w n := by
  have hf := fun c hc => lemma_lowerHex_facts c (lemma_hexFixed_chars w n c hc)
  rw [lemma_pyLower_ascii _ (fun c hc => (hf c hc).plain.1)]
  exact (List.map_congr_left fun c hc => (hf c hc).lower).trans (List.map_id _)

theorem lemma_bodyValue_snoc (base : Nat) (l : List Char) (c : Char) :
    bodyValue base (l ++ [c]) = bodyStep base (bodyValue base l) c := by
  simp [bodyValue, List.foldl_append]

theorem lemma_hex_value_rev (r : List Char) (h : ∀ c ∈ r, c ∈ hexChars) :
    bodyValue 16 r.reverse < 16 ^ r.length ∧
    hexFixed r.length (bodyValue 16 r.reverse) = r.reverse.map lowerChar := by
  induction r with
  | nil => simp [bodyValue, hexFixed]
  | cons c r ih =>
    obtain ⟨ih1, ih2⟩ := ih (fun x hx => h x (by simp [hx]))
    obtain ⟨hc1, hc2, _⟩ := lemma_hex_char_facts c (h c (by simp))
    obtain ⟨d, hd, hd16⟩ := (lemma_isDigitIn_iff 16 c).mp hc1
    have hdc : Nat.digitChar d = lowerChar c := by
      simpa [hd] using hc2
    rw [List.reverse_cons, lemma_bodyValue_snoc, List.length_cons]
    simp only [bodyStep, hd]
    constructor
    · rw [Nat.pow_succ]; omega
    · have e1 : (bodyValue 16 r.reverse * 16 + d) / 16 = bodyValue 16 r.reverse := by
        rw [Nat.mul_comm, Nat.mul_add_div (by decide), Nat.div_eq_of_lt hd16, Nat.add_zero]
      have e2 : (bodyValue 16 r.reverse * 16 + d) % 16 = d := by
        rw [Nat.mul_add_mod_self_right, Nat.mod_eq_of_lt hd16]
      simp only [hexFixed, e1, e2, ih2, hdc, List.map_append, List.map_cons, List.map_nil]

theorem lemma_hex_value (h : List Char) (hh : ∀ c ∈ h, c ∈ hexChars) :
    bodyValue 16 h < 16 ^ h.length ∧ hexFixed h.length (bodyValue 16 h) = pyLower h := by
  have := lemma_hex_value_rev h.reverse (fun c hc => hh c (List.mem_reverse.mp hc))
  rw [lemma_pyLower_ascii h (fun c hc => (lemma_hex_char_facts c (hh c hc)).ascii)]
  simpa using this

theorem lemma_skipHexPrefix_hex (h : List Char) (hh : ∀ c ∈ h, c ∈ hexChars) :
    skipHexPrefix h = h := by
  match h with
  | [] => rfl
  | [_] => rfl
  | a :: x :: r =>
    have hx := lemma_hex_char_facts x (hh x (by simp))
    simp [skipHexPrefix, hx.notX]

theorem lemma_parse_hex (h : List Char) (hne : h ≠ []) (hh : ∀ c ∈ h, c ∈ hexChars) :
    pyIntParse 16 h = some (Int.ofNat (bodyValue 16 h)) := by
  have := lemma_parse_digits 16 [] h hne (Or.inl rfl) (fun c hc => (lemma_hex_char_facts c (hh c hc)).digit)
    (fun _ => lemma_skipHexPrefix_hex h hh)
  simpa using this

theorem lemma_removeHyphens_id (l : List Char) (h : '-' ∉ l) : removeHyphens l = l := by
  unfold removeHyphens
  rw [List.filter_eq_self]
  intro c hc
  have : c ≠ '-' := fun e => h (e ▸ hc)
  simpa using this

theorem lemma_hyphenate_pieces (h : List Char) :
    h.take 8 ++ ((h.drop 8).take 4 ++ ((h.drop 12).take 4 ++ ((h.drop 16).take 4 ++ h.drop 20))) = h := by
  have e1 : h.drop 12 = (h.drop 8).drop 4 := by simp
  have e2 : h.drop 16 = (h.drop 12).drop 4 := by simp
  have e3 : h.drop 20 = (h.drop 16).drop 4 := by simp
  rw [e3, List.take_append_drop, e2, List.take_append_drop, e1, List.take_append_drop,
    List.take_append_drop]

theorem lemma_removeHyphens_hyphenate (h : List Char) :
    removeHyphens (hyphenate h) = removeHyphens h := by
  have := congrArg removeHyphens (lemma_hyphenate_pieces h)
  unfold hyphenate
  simp only [removeHyphens, List.filter_append, List.filter_cons] at this ⊢
  simpa using this

theorem lemma_removeHyphens_uuidStr (n : Nat) : removeHyphens (uuidStr n) = hexFixed 32 n := by
  rw [uuidStr, lemma_removeHyphens_hyphenate]
  exact lemma_removeHyphens_id _
    (fun hm => (lemma_lowerHex_facts _ (lemma_hexFixed_chars _ _ _ hm)).hyphen rfl)

theorem lemma_removeUrn_id (l : List Char) (h : 'u' ∉ l) : removeUrn l = l := by
  fun_induction removeUrn l with
  | case1 rest ih => simp at h
  | case2 c rest hne ih => rw [ih (fun hm => h (by simp [hm]))]
  | case3 => rfl

theorem lemma_removeUuid_id (l : List Char) (h : 'u' ∉ l) : removeUuid l = l := by
  fun_induction removeUuid l with
  | case1 rest ih => simp at h
  | case2 c rest hne ih => rw [ih (fun hm => h (by simp [hm]))]
  | case3 => rfl

theorem lemma_undecorate_braced (l x r : List Char)
    (hl : ∀ c ∈ l, isBrace c = true) (hr : ∀ c ∈ r, isBrace c = true)
    (hx : ∀ c ∈ x, c ≠ 'u' ∧ isBrace c = false) :
    uuidUndecorate (l ++ x ++ r) = removeHyphens x := by
  have hu : 'u' ∉ l ++ x ++ r := by
    intro hm
    simp only [List.mem_append] at hm
    rcases hm with (hm | hm) | hm
    · exact absurd (hl _ hm) (by decide)
    · exact (hx _ hm).1 rfl
    · exact absurd (hr _ hm) (by decide)
  rw [uuidUndecorate, lemma_removeUrn_id _ hu, lemma_removeUuid_id _ hu,
    lemma_strip_pad isBrace l x r hl hr (fun c hc => (hx c hc).2)]

theorem lemma_undecorate_plain (x : List Char) (hx : ∀ c ∈ x, c ≠ 'u' ∧ isBrace c = false) :
    uuidUndecorate x = removeHyphens x := by
  simpa using lemma_undecorate_braced [] x [] (by simp) (by simp) hx

end Oslo.Scalars
