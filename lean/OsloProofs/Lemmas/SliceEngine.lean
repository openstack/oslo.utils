/-
"Whatever an inspector retains for a region is exactly the stream's bytes at that region's
offsets".  First the invariant of one region, plain or end-capture, through capture / skip /
creation / truncation; then the engine-level invariant for all ten formats, under the forward
proviso for regions created while streaming (`fwdFollow`, `fwdEat`, `fwdFeed`: conditions on a run,
which follow `followUp`, `eatChunk`, `feed` step by step).
-/
import OsloProofs.Lemmas.Engine
import OsloProofs.Lemmas.Evolves
namespace Oslo.Insp

/-- region `r` has been presented exactly the stream prefix `q`; an end-capture region created at
    stream position `b` has only been presented `q.drop b` and reports where its suffix starts -/
def RegInv (r : Region) (q : Bytes) : Prop :=
  (r.isEnd = false → PlainInv r q) ∧
  (r.isEnd = true → 0 < r.length ∧ ∃ b, b ≤ q.length ∧ r.data = lastN r.length (q.drop b) ∧
      (r.data = [] ∨ r.offset = q.length - r.data.length))

theorem lemma_lastN_suffix (n : Nat) (x : Bytes) : lastN n x <:+ x := by
  unfold lastN
  split
  · exact List.suffix_refl x
  · exact List.drop_suffix _ x

theorem lemma_regInv_slice (r : Region) (q : Bytes) (h : RegInv r q) :
    r.data = sliceOf q r.offset r.data.length := by
  cases hE : r.isEnd
  · exact List.prefix_iff_eq_take.mp ((h.1 hE).1.trans (List.take_prefix _ _))
  · obtain ⟨_, b, _, hd, ho⟩ := h.2 hE
    rcases ho with ho | ho
    · rw [ho]; rfl
    · -- an end-capture region holds a suffix of the stream and reports where that suffix starts
      have hs : r.data <:+ q := hd ▸ (lemma_lastN_suffix _ _).trans (List.drop_suffix b q)
      rw [ho, sliceOf, ← List.suffix_iff_eq_drop.mp hs, List.take_length]

theorem lemma_regInv_step (r : Region) (p c : Bytes) (h : RegInv r p) :
    RegInv (stepRegion c (p.length + c.length) r) (p ++ c) := by
  obtain ⟨hp, he⟩ := h
  cases hE : r.isEnd
  · obtain ⟨hinv, _, _, _, _, e5, _⟩ := lemma_plain_step r p c hE (hp hE)
    have hs : (if r.isEnd || !r.complete then r.capture c (p.length + c.length) else r) =
        stepRegion c (p.length + c.length) r := rfl
    rw [hs] at hinv e5
    exact ⟨fun _ => hinv, fun h => by rw [e5] at h; simp at h⟩
  · obtain ⟨hn, b, hb, hd, _⟩ := he hE
    have hcap : stepRegion c (p.length + c.length) r =
        { r with data := lastN r.length (r.data ++ c),
                 offset := (p.length + c.length) - (lastN r.length (r.data ++ c)).length } := by
      simp [stepRegion, Region.capture, hE]
    rw [hcap]
    refine ⟨fun h => by simp [hE] at h, fun _ => ⟨hn, b, by simp; omega, ?_, Or.inr (by simp)⟩⟩
    simp only
    rw [hd, lemma_lastN_lastN, List.drop_append_of_le_length hb]

theorem lemma_regInv_empty (r : Region) (p : Bytes) (hd : r.data = [])
    (h : (r.isEnd = true ∧ 0 < r.length) ∨ (r.isEnd = false ∧ p.length ≤ r.offset)) : RegInv r p := by
  rcases h with ⟨hE, hl⟩ | ⟨hE, hf⟩
  · refine ⟨fun h => by rw [hE] at h; simp at h, fun _ => ⟨hl, p.length, Nat.le_refl _, ?_, Or.inl hd⟩⟩
    rw [hd]; simp [lastN]
  · refine ⟨fun _ => ⟨by rw [hd]; simp, fun _ => ?_⟩, fun h => by rw [hE] at h; simp at h⟩
    rw [hd]
    simp only [sliceOf]
    rw [List.drop_eq_nil_of_le hf]
    simp

theorem lemma_regInv_fresh (rid off len : Nat) (ml : Option Nat) (isEnd : Bool) (p : Bytes)
    (h : isEnd = true ∧ 0 < len ∨ isEnd = false ∧ p.length ≤ off) :
    RegInv { rid := rid, offset := off, length := len, minLength := ml, data := [], isEnd := isEnd,
             endDone := false } p :=
  lemma_regInv_empty _ p rfl h

theorem lemma_regInv_trunc (r : Region) (q : Bytes) (hE : r.isEnd = false) (h : RegInv r q) :
    RegInv { r with length := r.data.length } q := by
  have hs := lemma_regInv_slice r q h
  refine ⟨fun _ => ⟨?_, fun _ => ?_⟩, fun h' => by simp [hE] at h'⟩
  · simp only; rw [← hs]; exact List.prefix_refl _
  · simp only; exact hs

/-- new plain regions of one post-processing step start at or after the start of the current chunk -/
def PPFwd (s : Insp) (p : Bytes) : Prop :=
  ∀ x ∈ (postProcess s).1.regions, s.nextRid ≤ x.2.rid → x.2.isEnd = false → p.length ≤ x.2.offset

/-- invariant while chunk `c` (after prefix `p`) is being processed: regions whose identity is in
    `seen` have been presented `p ++ c`, the others only `p` -/
structure MidInv (s : Insp) (p c : Bytes) (seen : List Nat) : Prop where
  sinv : SInv s
  bnd : Bnd s
  total : s.total = p.length + c.length
  seenlt : ∀ i ∈ seen, i < s.nextRid
  regs : ∀ x ∈ s.regions, RegInv x.2 (if x.2.rid ∈ seen then p ++ c else p)

theorem lemma_mid_postProcess (s : Insp) (p c : Bytes) (seen : List Nat) (h : MidInv s p c seen)
    (hf : PPFwd s p) :
    MidInv (postProcess s).1 p c seen := by
  have hev := lemma_postProcess_evolves s h.sinv
  have hs' := lemma_postProcess_inv s h.sinv
  refine ⟨hs', hev.bnd h.bnd, by rw [hev.total]; exact h.total,
    fun i hi => Nat.lt_of_lt_of_le (h.seenlt i hi) hev.next, ?_⟩
  intro x hx
  rcases hev.regs x hx with ⟨y, hy, hsot⟩ | ⟨hge, _, hdata⟩
  · rw [lemma_sot_rid hsot]
    rcases hsot with e | ⟨hE, e⟩ <;> rw [e]
    · exact h.regs y hy
    · exact lemma_regInv_trunc y.2 _ hE (h.regs y hy)
  · rw [if_neg (fun hm => Nat.not_le_of_lt (h.seenlt _ hm) hge)]
    apply lemma_regInv_empty _ _ hdata
    cases hE : x.2.isEnd
    · exact Or.inr ⟨rfl, hf x hx hge hE⟩
    · exact Or.inl ⟨rfl, ((hs'.each x hx).2.2.2 hE).1⟩

/-- `_capture(chunk, only)` when `only` selects exactly the regions not yet seen: afterwards every
    region has been presented the chunk -/
theorem lemma_mid_capture (s : Insp) (p c : Bytes) (seen seen' : List Nat) (only : List String)
    (h : MidInv s p c seen)
    (hsel : ∀ x ∈ s.regions, ((only.isEmpty || only.contains x.1) = true ↔ x.2.rid ∉ seen))
    (hseen' : ∀ i, i ∈ seen' ↔ i ∈ seen ∨ i ∈ s.regions.map (·.2.rid)) :
    MidInv (s.captureAll c only) p c seen' ∧ ∀ x ∈ (s.captureAll c only).regions, x.2.rid ∈ seen' := by
  have hstep : ∀ x ∈ (s.captureAll c only).regions, ∃ y ∈ s.regions, x.2.rid = y.2.rid ∧
      RegInv x.2 (p ++ c) := by
    intro x hx
    rw [lemma_captureAll_eq] at hx
    obtain ⟨y, hy, rfl⟩ := List.mem_map.mp hx
    refine ⟨y, hy, ?_⟩
    have hr := h.regs y hy
    by_cases hs : y.2.rid ∈ seen
    · have : (only.isEmpty || only.contains y.1) = false :=
        Bool.eq_false_iff.mpr (fun hc => (hsel y hy).mp hc hs)
      rw [if_pos hs] at hr
      rw [this]
      exact ⟨rfl, hr⟩
    · rw [if_neg hs] at hr
      rw [(hsel y hy).mpr hs, h.total]
      exact ⟨lemma_stepRegion_rid c _ y.2, lemma_regInv_step y.2 p c hr⟩
  have hall : ∀ x ∈ (s.captureAll c only).regions, x.2.rid ∈ seen' := by
    intro x hx
    obtain ⟨y, hy, hr, _⟩ := hstep x hx
    exact (hseen' _).mpr (.inr (List.mem_map.mpr ⟨y, hy, hr.symm⟩))
  refine ⟨⟨lemma_rinv_captureAll s c only h.sinv, lemma_bnd_captureAll s c only h.bnd, h.total, ?_, ?_⟩, hall⟩
  · intro i hi
    rcases (hseen' i).mp hi with hi | hi
    · exact h.seenlt i hi
    · obtain ⟨y, hy, rfl⟩ := List.mem_map.mp hi
      exact h.bnd y hy
  · intro x hx
    obtain ⟨_, _, _, hr⟩ := hstep x hx
    rwa [if_pos (hall x hx)]

/-- invariant between chunks -/
structure StreamInv (s : Insp) (p : Bytes) : Prop where
  sinv : SInv s
  bnd : Bnd s
  total : s.total = p.length
  regs : ∀ x ∈ s.regions, RegInv x.2 p

theorem lemma_first_capture (s : Insp) (p c : Bytes) (h : StreamInv s p) :
    let s1 := ({ s with total := s.total + c.length } : Insp).captureAll c []
    MidInv s1 p c (s.regions.map (·.2.rid)) ∧ ∀ x ∈ s1.regions, x.2.rid ∈ s.regions.map (·.2.rid) :=
  lemma_mid_capture { s with total := s.total + c.length } p c [] _ []
    ⟨h.sinv, h.bnd, congrArg (· + c.length) h.total, (fun _ hi => nomatch hi), h.regs⟩
    (fun _ _ => by simp) (fun _ => by simp)

/-- the forward proviso for every post-processing step inside the `while new_regions` loop -/
def fwdFollow : Nat → Insp → Bytes → List Nat → Bytes → Prop
  | 0, _, _, _, _ => True
  | fuel + 1, s, c, seen, p =>
    let fresh := s.regions.filter (fun x => !seen.contains x.2.rid)
    if fresh.isEmpty then True else
    let s1 := s.captureAll c (fresh.map (·.1))
    PPFwd s1 p ∧
    match postProcess s1 with
    | (_, some _) => True
    | (s2, none) => fwdFollow fuel s2 c (seen ++ fresh.map (·.2.rid)) p

theorem lemma_fwdFollow_none (fuel : Nat) (s : Insp) (c : Bytes) (seen : List Nat) (p : Bytes)
    (h : ∀ x ∈ s.regions, x.2.rid ∈ seen) : fwdFollow fuel s c seen p := by
  cases fuel with
  | zero => trivial
  | succ n =>
    unfold fwdFollow
    exact if_pos ((lemma_fresh_empty_iff s seen).mpr h) ▸ trivial

/-- … and for one whole `eat_chunk` -/
def fwdEat (s : Insp) (c p : Bytes) : Prop :=
  if s.finished then True else
  let s2 := ({ s with total := s.total + c.length } : Insp).captureAll c []
  PPFwd s2 p ∧
  match postProcess s2 with
  | (_, some _) => True
  | (s3, none) => fwdFollow 8 s3 c (s.regions.map (·.2.rid)) p

/-- what a region holds is the stream's bytes at the offset it reports -/
def SliceOK (s : Insp) (q : Bytes) : Prop :=
  ∀ x ∈ s.regions, x.2.data = sliceOf q x.2.offset x.2.data.length

theorem lemma_mid_sliceOK {s : Insp} {p c : Bytes} {seen : List Nat} (h : MidInv s p c seen) :
    SliceOK s (p ++ c) := by
  intro x hx
  have := lemma_regInv_slice _ _ (h.regs x hx)
  split at this
  · exact this
  · exact lemma_sliceOf_extend _ p c _ this

theorem lemma_mid_stream {s : Insp} {p c : Bytes} {seen : List Nat} (h : MidInv s p c seen)
    (hall : ∀ x ∈ s.regions, x.2.rid ∈ seen) : StreamInv s (p ++ c) :=
  ⟨h.sinv, h.bnd, by rw [h.total, List.length_append], fun x hx => by
    have := h.regs x hx
    rwa [if_pos (hall x hx)] at this⟩

theorem lemma_nodup_fst {l : List (String × Region)} (hn : (l.map (·.1)).Nodup) {x y : String × Region}
    (hx : x ∈ l) (hy : y ∈ l) (h : x.1 = y.1) : x = y := by
  induction l with
  | nil => simp at hx
  | cons a l ih =>
    simp only [List.map_cons, List.nodup_cons, List.mem_map, not_exists, not_and] at hn
    simp only [List.mem_cons] at hx hy
    rcases hx with rfl | hx <;> rcases hy with rfl | hy
    · rfl
    · exact absurd h.symm (hn.1 y hy)
    · exact absurd h (hn.1 x hx)
    · exact ih hn.2 hx hy

/-- one round of the `while new_regions` loop: the regions not yet seen are selected by name -/
theorem lemma_mid_round {s : Insp} {p c : Bytes} {seen : List Nat} (h : MidInv s p c seen)
    (hne : ¬ (s.regions.filter (fun x => !seen.contains x.2.rid)).isEmpty = true) :
    let fresh := s.regions.filter (fun x => !seen.contains x.2.rid)
    PPFwd (s.captureAll c (fresh.map (·.1))) p →
    MidInv (postProcess (s.captureAll c (fresh.map (·.1)))).1 p c (seen ++ fresh.map (·.2.rid)) := by
  intro fresh hf
  have hfr : ∀ y, y ∈ fresh ↔ y ∈ s.regions ∧ y.2.rid ∉ seen := fun y => by simp [fresh]
  refine lemma_mid_postProcess _ p c _ (lemma_mid_capture s p c seen _ _ h ?_ ?_).1 hf
  · intro x hx
    have hnemp : (fresh.map (·.1)).isEmpty = false := by
      rw [List.isEmpty_map]; exact Bool.eq_false_iff.mpr hne
    rw [hnemp, Bool.false_or, List.contains_eq_mem, decide_eq_true_eq, List.mem_map]
    constructor
    · rintro ⟨y, hy, hyn⟩
      obtain ⟨hyl, hys⟩ := (hfr y).mp hy
      rwa [← lemma_nodup_fst h.sinv.nodup hyl hx hyn]
    · exact fun hns => ⟨x, (hfr x).mpr ⟨hx, hns⟩, rfl⟩
  · intro i
    simp only [List.mem_append, List.mem_map, hfr]
    constructor
    · rintro (hi | ⟨y, ⟨hy, _⟩, rfl⟩)
      · exact .inl hi
      · exact .inr ⟨y, hy, rfl⟩
    · rintro (hi | ⟨y, hy, rfl⟩)
      · exact .inl hi
      · by_cases hs : y.2.rid ∈ seen
        · exact .inl hs
        · exact .inr ⟨y, ⟨hy, hs⟩, rfl⟩

theorem lemma_followUp_mid (fuel : Nat) (s : Insp) (c : Bytes) (seen : List Nat) (p : Bytes)
    (h : MidInv s p c seen) (hf : fwdFollow fuel s c seen p) :
    SliceOK (followUp fuel s c seen).1 (p ++ c) ∧
    ((followUp fuel s c seen).2 = none → StreamInv (followUp fuel s c seen).1 (p ++ c)) := by
  fun_induction followUp fuel s c seen with
  | case1 => exact ⟨lemma_mid_sliceOK h, fun hn => nomatch hn⟩   -- out of fuel
  | case2 s c seen hany =>
    exact ⟨lemma_mid_sliceOK h, fun _ => lemma_mid_stream h ((lemma_fresh_any_iff s seen).mp hany)⟩
  | case3 fuel s c seen fresh hemp =>
    exact ⟨lemma_mid_sliceOK h, fun _ => lemma_mid_stream h ((lemma_fresh_empty_iff s seen).mp hemp)⟩
  | case4 fuel s c seen fresh hemp s1 s2 e hpp =>   -- `post_process` raised
    unfold fwdFollow at hf
    rw [if_neg hemp] at hf
    have h2 := lemma_mid_round h hemp hf.1
    rw [hpp] at h2
    exact ⟨lemma_mid_sliceOK h2, fun hn => nomatch hn⟩
  | case5 fuel s c seen fresh hemp s1 s2 hpp ih =>   -- one round, then the loop again
    unfold fwdFollow at hf
    rw [if_neg hemp] at hf
    have h2 := lemma_mid_round h hemp hf.1
    have hf2 := hf.2
    rw [hpp] at h2 hf2
    exact ih h2 hf2

theorem lemma_eat_slice (s : Insp) (p c : Bytes) (h : StreamInv s p) (hf : fwdEat s c p) :
    SliceOK (eatChunk s c).1 (p ++ c) ∧
    ((eatChunk s c).2 = none → StreamInv (eatChunk s c).1 (p ++ c)) := by
  unfold fwdEat at hf
  dsimp only at hf
  fun_cases eatChunk s c
  case case1 =>   -- already finished: raises
    exact ⟨fun x hx => lemma_sliceOf_extend _ p c _ (lemma_regInv_slice _ _ (h.regs x hx)), fun hn => nomatch hn⟩
  case case2 hfin _ s3 e hpp =>   -- the first `post_process` raised
    rw [if_neg hfin] at hf
    have h2 := lemma_mid_postProcess _ p c _ (lemma_first_capture s p c h).1 hf.1
    rw [hpp] at h2
    exact ⟨lemma_mid_sliceOK h2, fun hn => nomatch hn⟩
  case case3 hfin _ s3 hpp s4 e hfu =>   -- the loop raised
    rw [if_neg hfin] at hf
    have h2 := lemma_mid_postProcess _ p c _ (lemma_first_capture s p c h).1 hf.1
    have h3 := lemma_followUp_mid 8 s3 c (s.regions.map (·.2.rid)) p
    rw [hpp] at h2 hf
    rw [hfu] at h3
    exact ⟨(h3 h2 hf.2).1, fun hn => nomatch hn⟩
  case case4 hfin _ s3 hpp s4 hfu _ =>   -- the callbacks run
    rw [if_neg hfin] at hf
    have h2 := lemma_mid_postProcess _ p c _ (lemma_first_capture s p c h).1 hf.1
    have h3 := lemma_followUp_mid 8 s3 c (s.regions.map (·.2.rid)) p
    rw [hpp] at h2 hf
    rw [hfu] at h3
    obtain ⟨q, d, v, h5⟩ := lemma_runCallbacks_aux s4
      ((s4.regions.filter (fun p => p.2.complete &&
        !((s.regions.filter (·.2.complete)).map (·.2.rid)).contains p.2.rid)).map (·.1))
    rw [h5]
    obtain ⟨h6, h7⟩ := h3 h2 hf.2
    exact ⟨h6, fun _ => ⟨(h7 rfl).sinv, (h7 rfl).bnd, (h7 rfl).total, (h7 rfl).regs⟩⟩

/-- the forward proviso for a whole feed (InspectWrapper's discipline: stops at the first error) -/
def fwdFeed : Insp → List Bytes → Bytes → Prop
  | _, [], _ => True
  | s, c :: cs, p =>
    fwdEat s c p ∧
    match eatChunk s c with
    | (_, some _) => True
    | (s1, none) => fwdFeed s1 cs (p ++ c)

theorem lemma_feed_slice (s : Insp) (chunks : List Bytes) (p : Bytes) (h : StreamInv s p)
    (hf : fwdFeed s chunks p) (hnone : (feed s chunks).2 = none) :
    StreamInv (feed s chunks).1 (p ++ chunks.flatten) := by
  fun_induction feed s chunks generalizing p with
  | case1 => simpa using h
  | case2 => cases hnone
  | case3 s c cs s1 he ih =>
    unfold fwdFeed at hf
    have h1 := (lemma_eat_slice s p c h hf.1).2
    have hf1 := hf.2
    rw [he] at h1 hf1
    rw [List.flatten_cons, ← List.append_assoc]
    exact ih (p ++ c) (h1 rfl) hf1 hnone

end Oslo.Insp
