/-
The `inet_pton6` model.  `go6` is described once by what it does on one character (`lemma_go6_hex`,
`lemma_go6_colon_start`, `lemma_go6_colon_after`, `lemma_go6_dot`, `lemma_go6_other`, `lemma_go6_nil`); everything else is derived from
these: reading a whole group, a run of groups, the last token (a group or a dotted quad), the texts
that are rejected whatever the state, and the alphabet.
-/
import OsloProofs.Lemmas.C11V4
namespace Oslo.Net

/-- one IPv6 group as text: 1 to 4 hex digits (either case, leading zeros allowed) -/
def IsGroup (t : List Char) : Prop := 1 ≤ t.length ∧ t.length ≤ 4 ∧ ∀ c ∈ t, isHex c = true

/-- value of a group text -/
def groupVal (t : List Char) : Nat := t.foldl (fun v c => v * 16 + hexVal c) 0

/-- parser state at the start of a token -/
def S (done : List Nat) (colon : Option Nat) : P6 := ⟨done, colon, 0, 0, []⟩

/-- every token followed by ':' -/
def withColons : List (List Char) → List Char
  | [] => []
  | t :: ts => t ++ ':' :: withColons ts

theorem lemma_init6 : init6 = S [] none := rfl

theorem lemma_hex_ne (c : Char) (h : isHex c = true) : c ≠ ':' ∧ c ≠ '.' ∧ c ≠ '%' ∧ c ≠ nul ∧ c ≠ '/' := by
  refine ⟨?_, ?_, ?_, ?_, ?_⟩ <;> (intro e; subst e; revert h; decide)

theorem lemma_dig_hex (x : Nat) (h : x < 10) : isHex (dig x) = true := by
  simp [isHex, (lemma_dig_spec x h).1]

theorem lemma_group_head (t : List Char) (h : IsGroup t) : ∃ c r, t = c :: r ∧ isHex c = true := by
  obtain ⟨h1, _, hh⟩ := h
  match t, h1, hh with
  | c :: r, _, hh => exact ⟨c, r, rfl, hh c (by simp)⟩

section
variable {done : List Nat} {colon : Option Nat} {k v : Nat} {tk rest : List Char}

theorem lemma_go6_nil :
    go6 ⟨done, colon, k, v, tk⟩ [] =
      if k > 0 then (if done.length + 1 > 8 then none else finish6 (done ++ [v]) colon)
      else finish6 done colon := by
  rw [go6]

theorem lemma_go6_hex {c : Char} (h : isHex c = true) :
    go6 ⟨done, colon, k, v, tk⟩ (c :: rest) =
      if k = 4 then none else go6 ⟨done, colon, k + 1, v * 16 + hexVal c, tk ++ [c]⟩ rest := by
  rw [go6, if_pos h]

/-- ':' at the start of a token is the second colon of `::` -/
theorem lemma_go6_colon_start :
    go6 ⟨done, colon, 0, v, tk⟩ (':' :: rest) =
      if colon.isSome then none else go6 ⟨done, some done.length, 0, v, []⟩ rest := by
  rw [go6, if_neg (by decide), if_pos rfl, if_pos rfl]

/-- ':' after hex digits ends a group; it may not end the text -/
theorem lemma_go6_colon_after (hk : k ≠ 0) :
    go6 ⟨done, colon, k, v, tk⟩ (':' :: rest) =
      if rest.isEmpty then none
      else if done.length + 1 > 8 then none
      else go6 ⟨done ++ [v], colon, 0, 0, []⟩ rest := by
  rw [go6, if_neg (by decide), if_pos rfl, if_neg hk]

/-- '.' hands the current token and the rest of the text to `inet_pton4` -/
theorem lemma_go6_dot :
    go6 ⟨done, colon, k, v, tk⟩ ('.' :: rest) =
      if done.length + 2 ≤ 8 then
        match pton4 (tk ++ '.' :: rest) with
        | some [a, b, c, d] => finish6 (done ++ [a * 256 + b, c * 256 + d]) colon
        | _ => none
      else none := by
  rw [go6, if_neg (by decide), if_neg (by decide), if_pos rfl]
  rfl

theorem lemma_go6_other (st : P6) (c : Char) (rest : List Char) (h : ¬ isHex c = true) (h1 : c ≠ ':')
    (h2 : c ≠ '.') : go6 st (c :: rest) = none := by
  rw [go6, if_neg h, if_neg h1, if_neg h2]

end

theorem lemma_go6_dcolon (rest : List Char) (done : List Nat) :
    go6 (S done none) (':' :: rest) = go6 (S done (some done.length)) rest := by
  rw [S, lemma_go6_colon_start]; rfl

theorem lemma_go6_dcolon_again (rest : List Char) (done : List Nat) (k : Nat) :
    go6 (S done (some k)) (':' :: rest) = none := by
  rw [S, lemma_go6_colon_start]; rfl

theorem lemma_go6_hexes (t : List Char) (ht : ∀ c ∈ t, isHex c = true) (rest : List Char) (done : List Nat)
    (colon : Option Nat) (k v : Nat) (tk : List Char) (hk : k ≤ 4) :
    go6 ⟨done, colon, k, v, tk⟩ (t ++ rest) =
      if k + t.length ≤ 4 then
        go6 ⟨done, colon, k + t.length, t.foldl (fun v c => v * 16 + hexVal c) v, tk ++ t⟩ rest
      else none := by
  induction t generalizing k v tk with
  | nil => simp [hk]
  | cons c t ih =>
    rw [List.cons_append, lemma_go6_hex (ht c (by simp))]
    by_cases h4 : k = 4
    · rw [if_pos h4, if_neg (by simp; omega)]
    · rw [if_neg h4, ih (fun x hx => ht x (by simp [hx])) _ _ _ (by omega)]
      simp only [List.length_cons, List.foldl_cons, List.append_assoc, List.singleton_append,
        Nat.add_assoc, Nat.add_comm 1]

theorem lemma_go6_long_token (t : List Char) (ht : ∀ c ∈ t, isHex c = true) (hl : 4 < t.length)
    (rest : List Char) (done : List Nat) (colon : Option Nat) (v : Nat) (tk : List Char) :
    go6 ⟨done, colon, 0, v, tk⟩ (t ++ rest) = none := by
  rw [lemma_go6_hexes t ht rest done colon 0 v tk (by omega), if_neg (by omega)]

theorem lemma_go6_group (t : List Char) (ht : IsGroup t) (rest : List Char) (done : List Nat)
    (colon : Option Nat) :
    go6 (S done colon) (t ++ rest) = go6 ⟨done, colon, t.length, groupVal t, t⟩ rest := by
  have h := lemma_go6_hexes t ht.2.2 rest done colon 0 0 [] (by omega)
  rw [if_pos (by have := ht.2.1; omega)] at h
  simpa [S, groupVal] using h

theorem lemma_go6_group_colon (t rest : List Char) (done : List Nat) (colon : Option Nat)
    (ht : IsGroup t) (hr : rest ≠ []) :
    go6 (S done colon) (t ++ ':' :: rest) =
      if done.length < 8 then go6 (S (done ++ [groupVal t]) colon) rest else none := by
  have hre : ¬ rest.isEmpty = true := by simpa using hr
  rw [lemma_go6_group t ht, lemma_go6_colon_after (by have := ht.1; omega), if_neg hre]
  by_cases hl : done.length < 8
  · rw [if_pos hl, if_neg (by omega)]; rfl
  · rw [if_neg hl, if_pos (by omega)]

theorem lemma_go6_groups (pre : List (List Char)) (rest : List Char) (done : List Nat) (colon : Option Nat)
    (hp : ∀ t ∈ pre, IsGroup t) (hr : rest ≠ []) (hd : done.length ≤ 8) :
    go6 (S done colon) (withColons pre ++ rest) =
      if done.length + pre.length ≤ 8 then go6 (S (done ++ pre.map groupVal) colon) rest else none := by
  induction pre generalizing done with
  | nil => simp [withColons, hd]
  | cons t pre ih =>
    have hr' : withColons pre ++ rest ≠ [] := by simp [hr]
    simp only [withColons, List.cons_append, List.append_assoc]
    rw [lemma_go6_group_colon t _ done colon (hp t (by simp)) hr']
    by_cases hl : done.length < 8
    · rw [if_pos hl, ih (done ++ [groupVal t]) (fun x hx => hp x (by simp [hx])) (by simp; omega)]
      simp only [List.length_append, List.length_cons, List.length_nil, List.map_cons, List.append_assoc,
        List.singleton_append]
      by_cases h2 : done.length + (pre.length + 1) ≤ 8
      · rw [if_pos h2, if_pos (by omega)]
      · rw [if_neg h2, if_neg (by omega)]
    · rw [if_neg hl, if_neg (by simp; omega)]

/-- `e` is a last token that stands for the groups `X`: it starts with a hex digit, and read at the
    start of a token it stores `X` and ends the text.  A group and a dotted quad are the two instances. -/
def LastTok (e : List Char) (X : List Nat) : Prop :=
  (∃ c r, e = c :: r ∧ isHex c = true) ∧
  ∀ done colon, go6 (S done colon) e =
    if done.length + X.length ≤ 8 then finish6 (done ++ X) colon else none

theorem lemma_lastTok_group (t : List Char) (ht : IsGroup t) : LastTok t [groupVal t] := by
  refine ⟨lemma_group_head t ht, fun done colon => ?_⟩
  have h := lemma_go6_group t ht [] done colon
  rw [List.append_nil] at h
  rw [h, lemma_go6_nil, if_pos (by have := ht.1; omega), List.length_singleton]
  by_cases hl : done.length + 1 ≤ 8
  · rw [if_neg (by omega), if_pos hl]
  · rw [if_pos (by omega), if_neg hl]

/-- a canonical dotted quad stands for two groups: its first octet is read as hex digits, and the '.'
    hands the whole of it to `inet_pton4` -/
theorem lemma_lastTok_quad {a b c d : Nat} (ha : a < 256) (hb : b < 256) (hc : c < 256) (hd : d < 256) :
    LastTok (renderQuad a b c d) [a * 256 + b, c * 256 + d] := by
  have hg : IsGroup (renderOctet a) := by
    obtain ⟨h1, h3⟩ := lemma_renderOctet_length a
    exact ⟨h1, by omega, fun x hx => by simp [isHex, (lemma_renderOctet a ha).1 x hx]⟩
  obtain ⟨x, r, hx, hxh⟩ := lemma_group_head _ hg
  refine ⟨⟨x, _, by rw [renderQuad, hx]; rfl, hxh⟩, fun done colon => ?_⟩
  have hq := lemma_pton4_render ha hb hc hd
  unfold renderQuad at hq ⊢
  rw [lemma_go6_group _ hg, lemma_go6_dot, hq]
  rfl

theorem lemma_go6_groups_last (pre : List (List Char)) (e : List Char) (X : List Nat) (hp : ∀ t ∈ pre, IsGroup t)
    (he : LastTok e X) (done : List Nat) (colon : Option Nat) (hd : done.length ≤ 8) :
    go6 (S done colon) (withColons pre ++ e) =
      if done.length + pre.length + X.length ≤ 8 then finish6 (done ++ pre.map groupVal ++ X) colon
      else none := by
  obtain ⟨⟨c, r, hc, _⟩, he⟩ := he
  rw [lemma_go6_groups pre e done colon hp (by simp [hc]) hd]
  by_cases h1 : done.length + pre.length ≤ 8
  · rw [if_pos h1, he]
    simp only [List.length_append, List.length_map]
  · rw [if_neg h1, if_neg (by omega)]

theorem lemma_join_snoc (pre : List (List Char)) (t : List Char) :
    joinSep ':' (pre ++ [t]) = withColons pre ++ t := by
  induction pre with
  | nil => simp [joinSep, withColons]
  | cons u pre ih =>
    simp only [List.cons_append]
    rw [lemma_joinSep_cons (by simp), ih]; simp [withColons]

theorem lemma_join_colon (pre : List (List Char)) (rest : List Char) (h : pre ≠ []) :
    joinSep ':' pre ++ ':' :: rest = withColons pre ++ rest := by
  obtain rfl | ⟨pre', t, rfl⟩ := List.eq_nil_or_concat pre
  · exact absurd rfl h
  · rw [List.concat_eq_append, lemma_join_snoc, List.append_assoc]
    have : withColons (pre' ++ [t]) = withColons pre' ++ (t ++ [':']) := by
      induction pre' with
      | nil => simp [withColons]
      | cons u p ih => simp [withColons, ih]
    rw [this]; simp

theorem lemma_withColons_head (pre : List (List Char)) (e : List Char) (hp : ∀ t ∈ pre, IsGroup t)
    (he : pre = [] → ∃ c r, e = c :: r ∧ isHex c = true) :
    ∃ c r, withColons pre ++ e = c :: r ∧ isHex c = true := by
  cases pre with
  | nil => simpa [withColons] using he rfl
  | cons u pre' =>
    obtain ⟨c, r, hu, hc⟩ := lemma_group_head u (hp u (by simp))
    exact ⟨c, r ++ ':' :: (withColons pre' ++ e), by simp [withColons, hu], hc⟩

theorem lemma_pton6_hex_start (s : List Char) (h : ∃ c r, s = c :: r ∧ isHex c = true) :
    pton6 s = go6 (S [] none) s := by
  obtain ⟨c, r, rfl, hc⟩ := h
  simp [pton6, (lemma_hex_ne c hc).1, lemma_init6]

theorem lemma_pton6_some {s : List Char} {g : List Nat} (h : pton6 s = some g) :
    go6 init6 s = some g ∨ ∃ s', s = ':' :: s' ∧ go6 init6 s' = some g := by
  unfold pton6 at h
  match s, h with
  | c :: rest, h =>
    simp only at h
    split at h
    · rename_i hc
      match rest, h with
      | c2 :: r2, h =>
        simp only at h
        split at h
        · exact Or.inr ⟨_, by rw [hc], h⟩
        · cases h
    · exact Or.inl h

theorem lemma_finish6_dcolon (D X : List Nat) :
    finish6 (D ++ X) (some D.length) =
      if D.length + X.length ≤ 7 then some (D ++ List.replicate (8 - (D.length + X.length)) 0 ++ X) else none := by
  unfold finish6
  simp only [List.length_append, List.take_left, List.drop_left]
  by_cases h : D.length + X.length ≤ 7
  · rw [if_neg (by omega), if_pos h]
  · rw [if_pos (by omega), if_neg h]

theorem lemma_pton6_plain (pre : List (List Char)) (e : List Char) (X : List Nat) (hp : ∀ t ∈ pre, IsGroup t)
    (he : LastTok e X) :
    pton6 (joinSep ':' (pre ++ [e])) =
      if pre.length + X.length = 8 then some (pre.map groupVal ++ X) else none := by
  rw [lemma_join_snoc, lemma_pton6_hex_start _ (lemma_withColons_head pre e hp fun _ => he.1),
    lemma_go6_groups_last pre e X hp he [] none (by simp), finish6]
  simp only [List.length_nil, Nat.zero_add, List.nil_append, List.length_append, List.length_map]
  by_cases h : pre.length + X.length = 8
  · rw [if_pos (by omega), if_pos h]
  · rw [if_neg h]; split <;> rfl

theorem lemma_pton6_pre_dcolon (pre : List (List Char)) (jp : List Char) (hp : ∀ t ∈ pre, IsGroup t) :
    pton6 (joinSep ':' pre ++ ':' :: ':' :: jp) =
      if pre.length ≤ 8 then go6 (S (pre.map groupVal) (some pre.length)) jp else none := by
  cases pre with
  | nil => simp [joinSep, pton6, lemma_init6, lemma_go6_dcolon]
  | cons u pre' =>
    rw [lemma_join_colon _ _ (by simp),
      lemma_pton6_hex_start _ (lemma_withColons_head _ _ hp nofun),
      lemma_go6_groups _ _ [] none hp (by simp) (by simp)]
    simp only [List.length_nil, Nat.zero_add, List.nil_append]
    by_cases hl : (u :: pre').length ≤ 8
    · rw [if_pos hl, if_pos hl, S, lemma_go6_colon_start]; simp [S]
    · rw [if_neg hl, if_neg hl]

theorem lemma_pton6_compressed_tok (pre post : List (List Char)) (e : List Char) (X : List Nat)
    (hp : ∀ t ∈ pre, IsGroup t) (hq : ∀ t ∈ post, IsGroup t) (he : LastTok e X) :
    pton6 (joinSep ':' pre ++ ':' :: ':' :: joinSep ':' (post ++ [e])) =
      if pre.length + (post.length + X.length) ≤ 7 then
        some (pre.map groupVal ++ List.replicate (8 - (pre.length + (post.length + X.length))) 0 ++
          (post.map groupVal ++ X))
      else none := by
  have hlen : (pre.map groupVal).length = pre.length := by simp
  rw [lemma_pton6_pre_dcolon pre _ hp, lemma_join_snoc]
  by_cases h8 : pre.length ≤ 8
  · rw [if_pos h8, lemma_go6_groups_last post e X hq he _ _ (by simpa using h8), List.append_assoc,
      ← hlen, lemma_finish6_dcolon]
    simp only [hlen, List.length_append, List.length_map, Nat.add_assoc]
    by_cases h7 : pre.length + (post.length + X.length) ≤ 7
    · rw [if_pos (by omega), if_pos h7]
    · rw [if_neg h7]; split <;> rfl
  · rw [if_neg h8, if_neg (by omega)]

theorem lemma_pton6_full (ts : List (List Char)) (h : ∀ t ∈ ts, IsGroup t) :
    pton6 (joinSep ':' ts) = if ts.length = 8 then some (ts.map groupVal) else none := by
  obtain rfl | ⟨pre, t, rfl⟩ := List.eq_nil_or_concat ts
  · rfl
  · rw [List.concat_eq_append] at h ⊢
    rw [lemma_pton6_plain pre t _ (fun x hx => h x (by simp [hx])) (lemma_lastTok_group t (h t (by simp)))]
    simp

theorem lemma_pton6_compressed (pre post : List (List Char)) (hp : ∀ t ∈ pre, IsGroup t)
    (hq : ∀ t ∈ post, IsGroup t) :
    pton6 (joinSep ':' pre ++ ':' :: ':' :: joinSep ':' post) =
      if pre.length + post.length ≤ 7 then
        some (pre.map groupVal ++ List.replicate (8 - (pre.length + post.length)) 0 ++ post.map groupVal)
      else none := by
  obtain rfl | ⟨post', t, rfl⟩ := List.eq_nil_or_concat post
  · have h := lemma_finish6_dcolon (pre.map groupVal) []
    simp only [List.append_nil, List.length_map, List.length_nil, Nat.add_zero] at h
    rw [lemma_pton6_pre_dcolon pre _ hp, joinSep, S, lemma_go6_nil, if_neg (Nat.lt_irrefl 0), h]
    simp only [List.length_nil, Nat.add_zero, List.map_nil, List.append_nil]
    by_cases h7 : pre.length ≤ 7
    · rw [if_pos (by omega), if_pos h7]
    · rw [if_neg h7]; split <;> rfl
  · rw [List.concat_eq_append] at hq ⊢
    rw [lemma_pton6_compressed_tok pre post' t _ hp (fun x hx => hq x (by simp [hx]))
      (lemma_lastTok_group t (hq t (by simp)))]
    simp

/-- If `r` contains a character `x` that `inet_pton4` rejects and is itself rejected from every state
    whose `::` marker satisfies `I`, where `I` holds of every marker that is set, then so is every
    `q ++ r`: a step either rejects, or moves to a state that still satisfies `I`, or hands a text
    with `x` in it to `inet_pton4`. -/
theorem lemma_go6_none_append (I : Option Nat → Prop) (hI : ∀ n, I (some n)) (q r : List Char) (x : Char)
    (hx : x ∈ r) (hd : isDigit x = false) (hdot : x ≠ '.')
    (h : ∀ st : P6, I st.colon → go6 st r = none) : ∀ st : P6, I st.colon → go6 st (q ++ r) = none := by
  induction q with
  | nil => exact h
  | cons c q ih =>
    intro ⟨done, colon, k, v, tk⟩ hst
    rw [List.cons_append]
    by_cases hh : isHex c = true
    · rw [lemma_go6_hex hh]
      split
      · rfl
      · exact ih _ hst
    · by_cases h1 : c = ':'
      · subst h1
        by_cases hk : k = 0
        · subst hk
          rw [lemma_go6_colon_start]
          split
          · rfl
          · exact ih _ (hI _)
        · rw [lemma_go6_colon_after hk]
          split
          · rfl
          · split
            · rfl
            · exact ih _ hst
      · by_cases h2 : c = '.'
        · subst h2
          rw [lemma_go6_dot, lemma_pton4_notin _ x (by simp [hx]) hd hdot]
          split <;> rfl
        · exact lemma_go6_other _ _ _ hh h1 h2

/-- The same for `q ++ ':' :: r`, where `r` need only be rejected at the start of a token: the ':'
    rejects, or leaves the state at the start of a token with the `::` marker unchanged or newly set. -/
theorem lemma_go6_none_append_colon (I : Option Nat → Prop) (hI : ∀ n, I (some n)) (q r : List Char)
    (h : ∀ st : P6, st.xd = 0 → I st.colon → go6 st r = none) :
    ∀ st : P6, I st.colon → go6 st (q ++ ':' :: r) = none := by
  refine lemma_go6_none_append I hI q _ ':' (by simp) rfl (by decide) ?_
  intro ⟨done, colon, k, v, tk⟩ hst
  by_cases hk : k = 0
  · subst hk
    rw [lemma_go6_colon_start]
    split
    · rfl
    · exact h _ rfl (hI _)
  · rw [lemma_go6_colon_after hk]
    split
    · rfl
    · split
      · rfl
      · exact h _ rfl hst

theorem lemma_go6_second_dcolon (y : List Char) (st : P6) (z : List Char) (hs : st.colon.isSome = true) :
    go6 st (y ++ ':' :: ':' :: z) = none := by
  refine lemma_go6_none_append_colon (·.isSome = true) (fun _ => rfl) y _ ?_ st hs
  intro ⟨done, colon, k, v, tk⟩ hk hs
  cases hk
  rw [lemma_go6_colon_start, if_pos hs]

theorem lemma_go6_two_dcolons (x : List Char) (st : P6) (y z : List Char) :
    go6 st (x ++ ':' :: ':' :: (y ++ ':' :: ':' :: z)) = none := by
  refine lemma_go6_none_append_colon (fun _ => True) (fun _ => trivial) x _ ?_ st trivial
  intro ⟨done, colon, k, v, tk⟩ hk _
  cases hk
  rw [lemma_go6_colon_start]
  split
  · rfl
  · exact lemma_go6_second_dcolon y _ z rfl

/-- A token of more than four hex digits, at the start of the text or right after a ':', is rejected.
    The main loop runs on the whole text or on what follows a leading ':'; either way the token still
    stands at the start or after a ':'. -/
theorem lemma_pton6_long_group (p t rest : List Char) (hp : p = [] ∨ ∃ q, p = q ++ [':'])
    (ht : ∀ c ∈ t, isHex c = true) (hl : 4 < t.length) : pton6 (p ++ (t ++ rest)) = none := by
  have start : go6 init6 (t ++ rest) = none := lemma_go6_long_token t ht hl rest [] none 0 []
  have after : ∀ q, go6 init6 (q ++ ':' :: (t ++ rest)) = none := fun q =>
    lemma_go6_none_append_colon (fun _ => True) (fun _ => trivial) q _
      (fun ⟨_, _, _, _, _⟩ hk _ => by cases hk; exact lemma_go6_long_token t ht hl _ _ _ _ _) init6 trivial
  cases hq : pton6 (p ++ (t ++ rest)) with
  | none => rfl
  | some g =>
    rcases hp with rfl | ⟨q, rfl⟩
    · rcases lemma_pton6_some hq with h | ⟨s', e, h⟩
      · rw [List.nil_append, start] at h; cases h
      · match t, hl, ht with
        | c :: r, _, ht => exact absurd (List.cons.inj e).1 (lemma_hex_ne c (ht c (by simp))).1
    · rw [List.append_assoc] at hq
      rcases lemma_pton6_some hq with h | ⟨s', e, h⟩
      · rw [List.singleton_append, after] at h; cases h
      · cases q with
        | nil => obtain rfl := (List.cons.inj e).2; cases h.symm.trans start
        | cons c q' => obtain rfl := (List.cons.inj e).2; cases h.symm.trans (after q')

theorem lemma_pton6_two_dcolons (x y z : List Char) :
    pton6 (x ++ ':' :: ':' :: (y ++ ':' :: ':' :: z)) = none := by
  cases hq : pton6 (x ++ ':' :: ':' :: (y ++ ':' :: ':' :: z)) with
  | none => rfl
  | some g =>
    rcases lemma_pton6_some hq with h | ⟨s', e, h⟩
    · rw [lemma_go6_two_dcolons] at h; cases h
    · cases x with
      | nil =>
        obtain rfl := (List.cons.inj e).2
        rw [lemma_init6, lemma_go6_dcolon, lemma_go6_second_dcolon y _ z rfl] at h
        cases h
      | cons c x' =>
        rw [List.cons_append, List.cons.injEq] at e
        rw [← e.2, lemma_go6_two_dcolons] at h; cases h

/-- alphabet of accepted IPv6 text -/
def V6Char (c : Char) : Prop := isHex c = true ∨ c = ':' ∨ c = '.'

/-- a character outside the alphabet is rejected where it stands, and makes `inet_pton4` reject -/
theorem lemma_go6_chars {s : List Char} {st : P6} {g : List Nat} (h : go6 st s = some g) :
    ∀ c ∈ s, V6Char c := by
  intro c hc
  apply Classical.byContradiction
  intro hv
  have hh : ¬ isHex c = true := fun e => hv (Or.inl e)
  have hdot : c ≠ '.' := fun e => hv (Or.inr (Or.inr e))
  have hd : isDigit c = false := by
    cases e : isDigit c
    · rfl
    · exact absurd (by simp [isHex, e]) hh
  obtain ⟨q, r, rfl⟩ := List.append_of_mem hc
  rw [lemma_go6_none_append (fun _ => True) (fun _ => trivial) q _ c (by simp) hd hdot
    (fun st _ => lemma_go6_other st c r hh (fun e => hv (Or.inr (Or.inl e))) hdot) st trivial] at h
  cases h

theorem lemma_pton6_chars {s : List Char} {g : List Nat} (h : pton6 s = some g) : ∀ c ∈ s, V6Char c := by
  rcases lemma_pton6_some h with h1 | ⟨s', rfl, h1⟩
  · exact lemma_go6_chars h1
  · intro x hx
    rcases List.mem_cons.1 hx with rfl | hx
    · exact Or.inr (Or.inl rfl)
    · exact lemma_go6_chars h1 x hx

theorem lemma_not_v6char : ¬ V6Char '%' ∧ ¬ V6Char '/' ∧ ¬ V6Char nul := by
  unfold V6Char; decide

end Oslo.Net
