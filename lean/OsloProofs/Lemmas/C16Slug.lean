/-
Helper lemmas for C16 (not property theorems): the ASCII slug pipeline of OsloModel/Slug.lean.
The facts about the generated character tables are `decide`d, over the 128 ASCII code points or
over the entries of the tables, so a changed regular expression re-checks (or breaks) them.
-/
import OsloModel.Slug
import OsloProofs.Lemmas.C16Codec
namespace Oslo.C16
open Oslo.Encode Oslo.Slug

/-- the slug alphabet: lowercase ASCII letters, digits, underscore, hyphen -/
def SlugChar (c : Char) : Prop :=
  ('a' ≤ c ∧ c ≤ 'z') ∨ ('0' ≤ c ∧ c ≤ '9') ∨ c = '_' ∨ c = '-'

instance (c : Char) : Decidable (SlugChar c) := by unfold SlugChar; infer_instance

theorem lemma_slugChar_toNat (c : Char) : SlugChar c ↔
    (97 ≤ c.toNat ∧ c.toNat ≤ 122) ∨ (48 ≤ c.toNat ∧ c.toNat ≤ 57) ∨ c.toNat = 95 ∨ c.toNat = 45 := by
  simp only [SlugChar, Char.le_def, UInt32.le_iff_toNat_le, Char.ext_iff, ← UInt32.toNat_inj]
  rfl

theorem lemma_slugChar_ascii (c : Char) (h : SlugChar c) : c.toNat < 128 := by
  have := (lemma_slugChar_toNat c).1 h
  omega

theorem lemma_slugChar_lower (c : Char) (h : SlugChar c) : lowerAscii c = c := by
  have := (lemma_slugChar_toNat c).1 h
  rw [lowerAscii, if_neg (by omega)]

theorem lemma_tab_plus : Oslo.Generated.C16.hyphenPlus = true := by decide

theorem lemma_tab_hyphen_in : inHyphen '-' = true := by decide

/-- In contrapositive, and the next fact entry by entry, because the kernel's search of a table is
    the dear step: only characters outside the alphabet are looked up. -/
theorem lemma_tab_alphabet : ∀ n, n < 128 → ¬ SlugChar (lowerAscii (Char.ofNat n)) →
    (inStrip (Char.ofNat n) || inHyphen (lowerAscii (Char.ofNat n))) = true := by decide +kernel

theorem lemma_tab_fix :
    (∀ m ∈ Oslo.Generated.C16.stripClass, ¬ SlugChar (Char.ofNat m)) ∧
    (∀ m ∈ Oslo.Generated.C16.pySpace, ¬ SlugChar (Char.ofNat m)) ∧
    (∀ m ∈ Oslo.Generated.C16.hyphenClass, SlugChar (Char.ofNat m) → m = 45) := by
  decide +kernel

theorem lemma_alphabet_char (c : Char) (ha : c.toNat < 128) (h1 : inStrip c = false)
    (h2 : inHyphen (lowerAscii c) = false) : SlugChar (lowerAscii c) := by
  have := lemma_tab_alphabet c.toNat ha
  rw [Char.ofNat_toNat, h1, h2] at this
  exact Decidable.byContradiction fun hs => Bool.false_ne_true (this hs)

theorem lemma_fix_char (c : Char) (h : SlugChar c) :
    inStrip c = false ∧ isSpace c = false ∧ lowerAscii c = c ∧ (inHyphen c = true → c = '-') := by
  obtain ⟨t1, t2, t3⟩ := lemma_tab_fix
  have hc : SlugChar (Char.ofNat c.toNat) := by rwa [Char.ofNat_toNat]
  refine ⟨Bool.eq_false_iff.2 fun hm => t1 _ (List.contains_iff_mem.1 hm) hc,
    Bool.eq_false_iff.2 fun hm => t2 _ (List.contains_iff_mem.1 hm) hc, lemma_slugChar_lower c h,
    fun hm => ?_⟩
  rw [← Char.ofNat_toNat c, t3 _ (List.contains_iff_mem.1 hm) hc]

/-- no class character follows a class character, and every class character is a hyphen -/
def HyphenNormal : Bool → Text → Prop
  | _, [] => True
  | prev, c :: r => (inHyphen c = true → c = '-' ∧ prev = false) ∧ HyphenNormal (inHyphen c) r

theorem lemma_hyphenate_normal (p : Bool) (l : Text) : HyphenNormal p (hyphenateAux p l) := by
  fun_induction hyphenateAux p l <;> simp_all [HyphenNormal, lemma_tab_plus, lemma_tab_hyphen_in]

theorem lemma_normal_fix (p : Bool) (l : Text) (h : HyphenNormal p l) : hyphenateAux p l = l := by
  fun_induction hyphenateAux p l <;> simp_all [HyphenNormal]

theorem lemma_normal_nodouble (p : Bool) (l : Text) (h : HyphenNormal p l) : ¬ (['-', '-'] <:+: l) := by
  induction l generalizing p with
  | nil => simp
  | cons c r ih =>
    obtain ⟨h1, h2⟩ := h
    rw [List.infix_cons_iff]
    rintro (hp | hi)
    · cases r with
      | nil => simp at hp
      | cons d r' =>
        simp only [List.cons_prefix_cons] at hp
        obtain ⟨e1, e2, _⟩ := hp
        subst e1; subst e2
        rw [lemma_tab_hyphen_in] at h2
        obtain ⟨h3, _⟩ := h2
        have := (h3 lemma_tab_hyphen_in).2
        simp at this
    · exact ih _ h2 hi

theorem lemma_hyphenate_mem (p : Bool) (l : Text) :
    ∀ c ∈ hyphenateAux p l, c = '-' ∨ (c ∈ l ∧ inHyphen c = false) := by
  fun_induction hyphenateAux p l <;> grind

theorem lemma_pyStrip_none (l : Text) (h : ∀ c ∈ l, isSpace c = false) : pyStrip l = l := by
  unfold pyStrip
  rw [lemma_dropWhile_none _ l h, lemma_dropWhile_none _ l.reverse (by simpa using h)]
  simp

theorem lemma_pyStrip_subset (l : Text) : ∀ c ∈ pyStrip l, c ∈ l := by
  intro c hc
  unfold pyStrip at hc
  rw [List.mem_reverse] at hc
  have := List.dropWhile_subset isSpace hc
  rw [List.mem_reverse] at this
  exact List.dropWhile_subset isSpace this

theorem lemma_pipe_alphabet (v : Text) (hv : IsAscii v) : ∀ c ∈ slugPipe v, SlugChar c := by
  intro c hc
  unfold slugPipe hyphenate at hc
  rcases lemma_hyphenate_mem _ _ c hc with h | ⟨hm, hh⟩
  · exact Or.inr (Or.inr (Or.inr h))
  · unfold pyLower at hm
    obtain ⟨d, hd, rfl⟩ := List.mem_map.mp hm
    have hd' := lemma_pyStrip_subset _ d hd
    unfold stripRe at hd'
    obtain ⟨hd1, hd2⟩ := List.mem_filter.mp hd'
    exact lemma_alphabet_char d (hv d hd1) (by simpa using hd2) hh

theorem lemma_pipe_normal (v : Text) : HyphenNormal false (slugPipe v) := by
  unfold slugPipe hyphenate
  exact lemma_hyphenate_normal _ _

theorem lemma_pipe_fix (o : Text) (h1 : ∀ c ∈ o, SlugChar c) (h2 : HyphenNormal false o) : slugPipe o = o := by
  have e1 : stripRe o = o := by
    unfold stripRe
    rw [List.filter_eq_self]
    intro c hc
    simp [(lemma_fix_char c (h1 c hc)).1]
  have e2 : pyStrip o = o := lemma_pyStrip_none o (fun c hc => (lemma_fix_char c (h1 c hc)).2.1)
  have e3 : pyLower o = o := (List.map_congr_left fun c hc => (lemma_fix_char c (h1 c hc)).2.2.1).trans (List.map_id o)
  unfold slugPipe hyphenate
  rw [e1, e2, e3]
  exact lemma_normal_fix false o h2

theorem lemma_toSlug_ok {C : Codecs} {env : Env} {front : Text → Text} {v : Val}
    {inc : Option Name} {p : Policy} {o : Text} (h : toSlug C env front v inc p = .ok o) :
    ∃ t, o = slugText front t := by
  unfold toSlug at h
  split at h
  · exact ⟨_, (Except.ok.inj h).symm⟩
  · cases h

end Oslo.C16
