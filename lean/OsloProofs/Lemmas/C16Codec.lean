/-
Helper lemmas for C16 (not property theorems): the codecs implemented in OsloModel/Encode.lean
(utf-8, latin-1, ascii) satisfy the codec laws the property theorems assume.
-/
import OsloModel.Encode
import OsloProofs.Lemmas.C15C16Basic
namespace Oslo.C16
open Oslo.Encode

theorem lemma_toNat_ofNat (n : Nat) (h : n.isValidChar) : (Char.ofNat n).toNat = n := by
  simp [Char.ofNat, h, Char.ofNatAux, Char.toNat]

theorem lemma_mkChar (c : Char) : mkChar? c.toNat = some c := by
  have : c.toNat.isValidChar := c.valid
  simp [mkChar?, this]

/-! ### UTF-8

A code point is handled through its base-64 digits, the payloads of the continuation bytes: with
the digits as variables every side condition is linear. -/

theorem lemma_base64 (n : Nat) : ∃ m d, d < 64 ∧ n = m * 64 + d :=
  ⟨n / 64, n % 64, Nat.mod_lt _ (by decide), (Nat.div_add_mod' n 64).symm⟩

/-- every scalar value lies in one of the four length classes of UTF-8 (Unicode table 3-7), given
    by the payload `q` of the lead byte and the payloads of the continuation bytes.  The bounds on
    the first continuation payload are those of the table: `q = 0 → 32 ≤ d1` and `q = 0 → 16 ≤ d2`
    exclude overlong forms (the value is at least 0x800, 0x10000), `q = 13 → d1 < 32` excludes the
    surrogates D800–DFFF (lead byte ED), `q = 4 → d2 < 16` keeps the value below 0x110000. -/
theorem lemma_utf8_classes {P : Nat → Prop} (n : Nat) (hv : n.isValidChar)
    (c1 : n < 0x80 → P n)
    (c2 : ∀ q d, d < 64 → 2 ≤ q → q < 32 → P (q * 64 + d))
    (c3 : ∀ q d1 d0 N, N = (q * 64 + d1) * 64 + d0 → d1 < 64 → d0 < 64 → 0x800 ≤ N → N < 0x10000 →
      q < 16 → (q = 0 → 32 ≤ d1) → (q = 13 → d1 < 32) → P N)
    (c4 : ∀ q d2 d1 d0 N, N = ((q * 64 + d2) * 64 + d1) * 64 + d0 → d2 < 64 → d1 < 64 → d0 < 64 →
      0x10000 ≤ N → q < 5 → (q = 0 → 16 ≤ d2) → (q = 4 → d2 < 16) → P N) : P n := by
  have hv' : n < 0xD800 ∨ (0xDFFF < n ∧ n < 0x110000) := hv
  by_cases h1 : n < 0x80
  · exact c1 h1
  obtain ⟨m, d0, h0, rfl⟩ := lemma_base64 n
  by_cases h2 : m * 64 + d0 < 0x800
  · exact c2 m d0 h0 (by omega) (by omega)
  obtain ⟨m, d1, hd1, rfl⟩ := lemma_base64 m
  by_cases h3 : (m * 64 + d1) * 64 + d0 < 0x10000
  · have : m < 16 ∧ (m = 0 → 32 ≤ d1) ∧ (m = 13 → d1 < 32) := by omega
    exact c3 m d1 d0 _ rfl hd1 h0 (Nat.le_of_not_lt h2) h3 this.1 this.2.1 this.2.2
  obtain ⟨q, d2, hd2, rfl⟩ := lemma_base64 m
  have : q < 5 ∧ (q = 0 → 16 ≤ d2) ∧ (q = 4 → d2 < 16) := by omega
  exact c4 q d2 d1 d0 _ rfl hd2 hd1 h0 (Nat.le_of_not_lt h3) this.1 this.2.1 this.2.2

theorem lemma_enc2 (q d : Nat) (hd : d < 64) (h2 : 2 ≤ q) (h : q < 32) :
    utf8EncodeNat (q * 64 + d) = [0xC0 + q, 0x80 + d] := by
  rw [utf8EncodeNat, if_neg (by omega), if_pos (by omega), lemma_digit_div q hd,
    Nat.mul_add_mod_of_lt hd]

theorem lemma_enc3 (q d1 d0 N : Nat) (hN : N = (q * 64 + d1) * 64 + d0) (h1 : d1 < 64)
    (h0 : d0 < 64) (hlo : 0x800 ≤ N) (hhi : N < 0x10000) :
    utf8EncodeNat N = [0xE0 + q, 0x80 + d1, 0x80 + d0] := by
  rw [utf8EncodeNat, if_neg (Nat.not_lt.2 (Nat.le_trans (by decide) hlo)),
    if_neg (Nat.not_lt.2 hlo), if_pos hhi, hN,
    show (4096 : Nat) = 64 * 64 from rfl, ← Nat.div_div_eq_div_mul, lemma_digit_div _ h0,
    lemma_digit_div q h1, Nat.mul_add_mod_of_lt h1, Nat.mul_add_mod_of_lt h0]

theorem lemma_enc4 (q d2 d1 d0 N : Nat) (hN : N = ((q * 64 + d2) * 64 + d1) * 64 + d0)
    (h2 : d2 < 64) (h1 : d1 < 64) (h0 : d0 < 64) (hlo : 0x10000 ≤ N) :
    utf8EncodeNat N = [0xF0 + q, 0x80 + d2, 0x80 + d1, 0x80 + d0] := by
  rw [utf8EncodeNat, if_neg (Nat.not_lt.2 (Nat.le_trans (by decide) hlo)),
    if_neg (Nat.not_lt.2 (Nat.le_trans (by decide) hlo)), if_neg (Nat.not_lt.2 hlo), hN,
    show (262144 : Nat) = 64 * (64 * 64) from rfl, show (4096 : Nat) = 64 * 64 from rfl,
    ← Nat.div_div_eq_div_mul, ← Nat.div_div_eq_div_mul, ← Nat.div_div_eq_div_mul, lemma_digit_div _ h0,
    lemma_digit_div _ h1, lemma_digit_div q h2, Nat.mul_add_mod_of_lt h2, Nat.mul_add_mod_of_lt h1,
    Nat.mul_add_mod_of_lt h0]

theorem lemma_events_idle (b : Nat) (rest : List Nat) :
    utf8Events idle (b :: rest) = (startByte b).2 ++ utf8Events (startByte b).1 rest := by
  simp [utf8Events, feed, idle]

theorem lemma_events_lead (b : Nat) (st : DSt) (rest : List Nat) (h : startByte b = (st, [])) :
    utf8Events idle (b :: rest) = utf8Events st rest := by
  rw [lemma_events_idle, h]
  rfl

theorem lemma_events_last (a lo hi d : Nat) (rest : List Nat) (h : lo ≤ 0x80 + d ∧ 0x80 + d ≤ hi) :
    utf8Events ⟨1, a, lo, hi⟩ ((0x80 + d) :: rest) = .ch (a * 64 + d) :: utf8Events idle rest := by
  simp [utf8Events, feed, h]

theorem lemma_events_more (k a lo hi d : Nat) (rest : List Nat)
    (h : lo ≤ 0x80 + d ∧ 0x80 + d ≤ hi) :
    utf8Events ⟨k + 2, a, lo, hi⟩ ((0x80 + d) :: rest)
      = utf8Events ⟨k + 1, a * 64 + d, 0x80, 0xBF⟩ rest := by
  simp [utf8Events, feed, h]

theorem lemma_utf8_char (n : Nat) (hv : n.isValidChar) :
    (∀ b ∈ utf8EncodeNat n, b < 256) ∧
    ∀ rest, utf8Events idle (utf8EncodeNat n ++ rest) = .ch n :: utf8Events idle rest := by
  refine lemma_utf8_classes (P := fun n => (∀ b ∈ utf8EncodeNat n, b < 256) ∧
    ∀ rest, utf8Events idle (utf8EncodeNat n ++ rest) = .ch n :: utf8Events idle rest)
    n hv ?_ ?_ ?_ ?_
  · intro h
    rw [utf8EncodeNat, if_pos h]
    refine ⟨fun b hb => by rw [List.mem_singleton] at hb; omega, fun rest => ?_⟩
    rw [List.singleton_append, lemma_events_idle, startByte, if_pos h]
    rfl
  · intro q d hd h2 h
    rw [lemma_enc2 q d hd h2 h]
    refine ⟨fun b hb => ?_, fun rest => ?_⟩
    · simp only [List.mem_cons, List.not_mem_nil, or_false] at hb
      omega
    rw [List.cons_append, lemma_events_lead _ _ _ (by
      rw [startByte, if_neg (by omega), if_pos (by omega), Nat.add_sub_cancel_left]),
      List.cons_append, List.nil_append, lemma_events_last]
    omega
  · intro q d1 d0 N hN h1 h0 hl hu h hlo hhi
    rw [lemma_enc3 q d1 d0 N hN h1 h0 hl hu, hN]
    clear hl hu hN
    refine ⟨fun b hb => ?_, fun rest => ?_⟩
    · simp only [List.mem_cons, List.not_mem_nil, or_false] at hb
      omega
    rw [List.cons_append, lemma_events_lead _ _ _ (by
      rw [startByte, if_neg (by omega), if_neg (by omega), if_pos (by omega),
        Nat.add_sub_cancel_left]),
      List.cons_append, lemma_events_more 0, List.cons_append, List.nil_append, lemma_events_last]
    · omega
    · -- after E0 the next byte is at least A0 (no overlong form), after ED at most 9F (no surrogate)
      constructor
      · split
        · have := hlo (by omega); omega
        · exact Nat.le_add_right _ _
      · split
        · have := hhi (by omega); omega
        · exact Nat.add_le_add_left (Nat.le_of_lt_succ h1) _
  · intro q d2 d1 d0 N hN h2 h1 h0 hl h hlo hhi
    rw [lemma_enc4 q d2 d1 d0 N hN h2 h1 h0 hl, hN]
    clear hl hN
    refine ⟨fun b hb => ?_, fun rest => ?_⟩
    · simp only [List.mem_cons, List.not_mem_nil, or_false] at hb
      omega
    rw [List.cons_append, lemma_events_lead _ _ _ (by
      rw [startByte, if_neg (by omega), if_neg (by omega), if_neg (by omega), if_pos (by omega),
        Nat.add_sub_cancel_left]),
      List.cons_append, lemma_events_more 1, List.cons_append, lemma_events_more 0,
      List.cons_append, List.nil_append, lemma_events_last]
    · omega
    · omega
    · -- after F0 the next byte is at least 90 (no overlong form), after F4 at most 8F (≤ U+10FFFF)
      constructor
      · split
        · have := hlo (by omega); omega
        · exact Nat.le_add_right _ _
      · split
        · have := hhi (by omega); omega
        · exact Nat.add_le_add_left (Nat.le_of_lt_succ h2) _

theorem lemma_utf8_events (t : Text) :
    utf8Events idle (utf8EncodeNats t) = t.map (fun c => Ev.ch c.toNat) := by
  induction t with
  | nil => simp [utf8EncodeNats, utf8Events, idle]
  | cons c cs ih => simp [utf8EncodeNats, (lemma_utf8_char c.toNat c.valid).2, ih]

theorem lemma_collect_chars (p : Policy) (t : Text) :
    collect p (t.map (fun c => Ev.ch c.toNat)) = .ok t := by
  induction t with
  | nil => simp [collect]
  | cons c cs ih => simp [collect, lemma_mkChar, ih]

theorem lemma_utf8EncodeNats_lt (t : Text) : ∀ b ∈ utf8EncodeNats t, b < 256 := by
  induction t with
  | nil => simp [utf8EncodeNats]
  | cons c cs ih =>
    intro b hb
    simp only [utf8EncodeNats, List.mem_append] at hb
    exact hb.elim ((lemma_utf8_char _ c.valid).1 b) (ih b)

theorem lemma_bytes_nats (l : List Nat) (h : ∀ b ∈ l, b < 256) :
    (l.map Nat.toUInt8).map UInt8.toNat = l := by
  induction l with
  | nil => rfl
  | cons a l ih =>
    have ha : (Nat.toUInt8 a).toNat = a :=
      UInt8.toNat_ofNat_of_lt' (by simpa [UInt8.size] using h a (by simp))
    simp only [List.map_cons, ha]
    rw [ih (fun b hb => h b (by simp [hb]))]

theorem lemma_utf8_roundtrip (p : Policy) (t : Text) : utf8Decode p (utf8Encode t) = .ok t := by
  unfold utf8Decode utf8Encode
  rw [lemma_bytes_nats _ (lemma_utf8EncodeNats_lt t), lemma_utf8_events, lemma_collect_chars]

theorem lemma_sb_roundtrip (limit : Nat) (hl : limit ≤ 256) (p : Policy) (t : Text) :
    ∀ b, sbEncode limit .strict t = .ok b → sbDecode limit p b = .ok t := by
  induction t with
  | nil => intro b h; simp [sbEncode] at h; subst h; simp [sbDecode]
  | cons c cs ih =>
    intro b h
    by_cases hc : c.toNat < limit
    · simp only [sbEncode, hc, if_true] at h
      cases he : sbEncode limit .strict cs with
      | error e => simp [he, Except.map] at h
      | ok b' =>
        have hx : (Nat.toUInt8 c.toNat).toNat = c.toNat :=
          UInt8.toNat_ofNat_of_lt' (by simp [UInt8.size]; omega)
        simp only [he, Except.map, Except.ok.injEq] at h
        simp [← h, sbDecode, hx, hc, ih b' he, Except.map]
    · simp [sbEncode, hc] at h

theorem lemma_sb_policy (limit : Nat) (q : Policy) (t : Text) :
    ∀ b, sbEncode limit .strict t = .ok b → sbEncode limit q t = .ok b := by
  induction t with
  | nil => intro b h; simpa [sbEncode] using h
  | cons c cs ih =>
    intro b h
    by_cases hc : c.toNat < limit
    · simp only [sbEncode, hc, if_true] at h ⊢
      cases he : sbEncode limit .strict cs with
      | error e => simp [he, Except.map] at h
      | ok b' => simpa [he, Except.map, ih b' he] using h
    · simp [sbEncode, hc] at h

theorem lemma_sbEncode_noTypeError (l : Nat) (q : Policy) (u : Text) :
    sbEncode l q u ≠ .error .typeError := by
  fun_induction sbEncode l q u <;> simp_all [lemma_map_error]

theorem lemma_sbDecode_noTypeError (l : Nat) (q : Policy) (u : Bytes) :
    sbDecode l q u ≠ .error .typeError := by
  fun_induction sbDecode l q u <;> simp_all [lemma_map_error]

theorem lemma_collect_noTypeError (q : Policy) (evs : List Ev) :
    collect q evs ≠ .error .typeError := by
  fun_induction collect q evs <;> simp_all [lemma_map_error]

theorem lemma_lower_idem (c : Char) : lowerAscii (lowerAscii c) = lowerAscii c := by
  unfold lowerAscii
  by_cases h : 65 ≤ c.toNat ∧ c.toNat ≤ 90
  · have hv : (c.toNat + 32).isValidChar := Or.inl (by omega)
    simp only [h, and_self, if_true, lemma_toNat_ofNat _ hv]
    have : ¬ (65 ≤ c.toNat + 32 ∧ c.toNat + 32 ≤ 90) := by omega
    rw [if_neg this]
  · simp [h]

theorem lemma_lower_default : lowerName defaultEncoding = utf8Name := by
  rw [defaultEncoding, utf8Name, String.toList_ofList]
  decide +kernel

theorem lemma_lookup_lower (n : Name) : lookup (lowerName n) = lookup n := by
  simp [lookup, normName, lowerName, List.map_map, Function.comp_def, lemma_lower_idem]

theorem lemma_real_decode_known (n : Name) (k : Kind) (h : lookup n = some k) (p : Policy) (b : Bytes) :
    real.decode n p b = match k with
      | .utf8 => utf8Decode p b
      | .latin1 => sbDecode 256 p b
      | .ascii => sbDecode 128 p b := by
  cases b with
  | nil => cases k <;> rfl
  | cons x xs => cases k <;> simp only [real, h]

end Oslo.C16
