/-
The expected inspector's run (`xrun`) for the VHDX inspector under `VhdxForward ∧ VhdxMetaSigOK`:
between chunks the state is one of the `VInv` shapes of the prefix streamed so far, what
`_process_chunk` reads off it is the function `decSpec` of that prefix, `complete` is monotone in
the prefix (`lemma_vhdxComplete_mono`) and `format_match` is fixed once 8 bytes are in, so the first
chunk boundary at which the inspector is complete decides as the end of the stream does; an error
of the region-table walk is raised at the first boundary at or after 256 KiB.
-/
import OsloProofs.Lemmas.WrapRunExpReal
import OsloProofs.Props.C01Vhdx
namespace Oslo.Insp

/-- `complete` of the VHDX inspector as a function of the bytes streamed -/
def vhdxCompleteB (s : Bytes) : Bool :=
  if s.length < 262144 then false else
  match findMetaRegionB (sliceOf s 196608 65536) with
  | .error _ => true
  | .ok none => true
  | .ok (some mo) =>
    match findMetaEntryB (sliceOf s mo 65536) with
    | .error _ => decide ((sliceOf s mo 65536).length = 65536)
    | .ok none => decide ((sliceOf s mo 65536).length = 65536)
    | .ok (some (ioff, ilen)) =>
      decide ((sliceOf s (mo + ioff) (min ilen 65536)).length = min ilen 65536)

theorem lemma_spec_complete (s : Bytes) : (specVhdx s).complete = vhdxCompleteB s := by
  unfold specVhdx vhdxCompleteB
  by_cases hl : s.length < 262144
  · simp only [hl, if_true, vhdxVerdict]
  · simp only [hl, if_false]
    cases findMetaRegionB (sliceOf s 196608 65536) with
    | error e => rfl
    | ok o =>
      cases o with
      | none => rfl
      | some mo =>
        simp only
        cases findMetaEntryB (sliceOf s mo 65536) with
        | error e => rfl
        | ok o2 =>
          cases o2 with
          | none => rfl
          | some x =>
            obtain ⟨ioff, ilen⟩ := x
            simp only
            by_cases hv : (sliceOf s (mo + ioff) (min ilen 65536)).length = min ilen 65536
            · simp only [hv, if_true, vhdxVerdict, decide_true]
            · simp only [hv, if_false, vhdxVerdict, decide_false]

theorem lemma_spec_match (s : Bytes) : (specVhdx s).fmtMatch = .ok (startsWith s (ascii "vhdxfile")) := by
  unfold specVhdx
  dsimp only
  repeat' split
  all_goals rfl

theorem lemma_vhdxComplete_long (s : Bytes) (h : vhdxCompleteB s = true) : 262144 ≤ s.length := by
  unfold vhdxCompleteB at h
  by_cases hl : s.length < 262144
  · simp [hl] at h
  · omega

theorem lemma_vhdxComplete_mono (q c : Bytes) (h : vhdxCompleteB q = true) : vhdxCompleteB (q ++ c) = true := by
  have hl := lemma_vhdxComplete_long q h
  have hpre : q <+: q ++ c := List.prefix_append q c
  have hl' : ¬ ((q ++ c).length < 262144) := by rw [List.length_append]; omega
  have hlq : ¬ (q.length < 262144) := by omega
  have hh : sliceOf (q ++ c) 196608 65536 = sliceOf q 196608 65536 := lemma_sliceOf_within hpre _ _ (by omega)
  rw [vhdxCompleteB, if_neg hlq] at h
  rw [vhdxCompleteB, if_neg hl', hh]
  cases hr : findMetaRegionB (sliceOf q 196608 65536) with
  | error e => rfl
  | ok o =>
    cases o with
    | none => rfl
    | some mo =>
      rw [hr] at h
      simp only at h ⊢
      have hfull : (sliceOf q mo 65536).length = 65536 → sliceOf (q ++ c) mo 65536 = sliceOf q mo 65536 :=
        fun hf => lemma_sliceOf_append_of_full q c mo 65536 hf.symm
      cases he : findMetaEntryB (sliceOf q mo 65536) with
      | error e =>
        rw [he] at h
        rw [hfull (of_decide_eq_true h), he]
        exact h
      | ok o2 =>
        cases o2 with
        | none =>
          rw [he] at h
          rw [hfull (of_decide_eq_true h), he]
          exact h
        | some x =>
          obtain ⟨ioff, ilen⟩ := x
          rw [he] at h
          rw [lemma_entry_mono q c mo _ he]
          dsimp only at h ⊢
          rw [lemma_sliceOf_append_of_full q c _ _ (of_decide_eq_true h).symm]
          exact h

/-- what `_process_chunk` reads off a (non-raising) VHDX inspector, as a function of the bytes -/
def decSpec (q : Bytes) : POut :=
  if vhdxCompleteB q then ofMatch (.ok (startsWith q (ascii "vhdxfile"))) else .done

theorem lemma_vinv_finish_regions (q : Bytes) (st : Insp) (h : VInv q st) : st.finish.regions = st.regions := by
  cases h <;> simp [stA, stM, stV, vst, Insp.finish, Region.finish, plainR]

theorem lemma_vinv_dec (q : Bytes) (st : Insp) (h : VInv q st) : decI st = decSpec q := by
  have hv := lemma_verdict_state q st h
  have hreg := lemma_vinv_finish_regions q st h
  have hc : st.complete = vhdxCompleteB q := by
    rw [← lemma_spec_complete, ← hv]
    simp only [verdict, Insp.complete, hreg]
  have hm : formatMatch st = .ok (startsWith q (ascii "vhdxfile")) := by
    rw [← lemma_spec_match, ← hv]
    simp only [verdict]
    exact (lemma_formatMatch_congr st st.finish rfl hreg rfl rfl).symm
  simp only [decI, decSpec, hc, hm]

/-- how the read through a wrapper expecting VHDX ends, as a function of the bytes -/
def vhdxOutcome (s : Bytes) : POut :=
  if s.length < 262144 then .done else
  match findMetaRegionB (sliceOf s 196608 65536) with
  | .error e => .raised e
  | .ok _ => decSpec s

theorem lemma_decSpec_short (q : Bytes) (h : q.length < 262144) : decSpec q = .done := by
  simp [decSpec, vhdxCompleteB, h]

theorem lemma_decSpec_prefix (q r : Bytes) : decSpec q = .done ∨ decSpec q = decSpec (q ++ r) := by
  by_cases hc : vhdxCompleteB q = true
  · right
    have hl := lemma_vhdxComplete_long q hc
    have hm : startsWith (q ++ r) (ascii "vhdxfile") = startsWith q (ascii "vhdxfile") :=
      lemma_startsWith_prefix (List.prefix_append q r) _ (by rw [lemma_magic_length]; omega)
    simp only [decSpec, hc, lemma_vhdxComplete_mono q r hc, hm]
  · left
    simp [decSpec, hc]

/-- what `_process_chunk` reads off the VHDX inspector at the chunk boundary after `L`, the stream
    going on with `r`: either the inspector has not raised, the decision is `decSpec` of the bytes so
    far, and a region-table error of the whole stream, if any, still lies ahead (fewer than 256 KiB
    streamed); or it raised that error at a boundary at or after 256 KiB -/
theorem lemma_vhdx_boundary (s0 : Insp) (h0 : Insp.init .vhdx = some s0) (L : List Bytes) (r : Bytes)
    (hf : VhdxForward (L.flatten ++ r)) (hs : VhdxMetaSigOK (L.flatten ++ r)) :
    (decOf realOps (gfeed realOps s0 L) = decSpec L.flatten ∧
      ∀ e, findMetaRegionB (sliceOf (L.flatten ++ r) 196608 65536) = .error e → L.flatten.length < 262144) ∨
    (∃ e, decOf realOps (gfeed realOps s0 L) = .raised e ∧ 262144 ≤ L.flatten.length ∧
      findMetaRegionB (sliceOf (L.flatten ++ r) 196608 65536) = .error e) := by
  rw [lemma_init_vhdx] at h0
  simp only [Option.some.injEq] at h0
  subst h0
  rw [gfeed_real]
  obtain ⟨q, hq, hnext, hend, hqL⟩ := lemma_vinv_feed (L.flatten ++ r) hf hs L [] (stA [])
    (VInv.early (by simp)) (by simp)
  cases hfeed : feed (stA []) L with
  | mk st e =>
    rw [hfeed] at hnext hend
    cases e with
    | none =>
      left
      have hqe : q = L.flatten := by simpa using hend rfl
      subst hqe
      have hinv : VInv L.flatten st := hnext
      refine ⟨by rw [lemma_decOf_none]; exact lemma_vinv_dec _ st hinv, ?_⟩
      intro e he
      by_cases hl : L.flatten.length < 262144
      · exact hl
      · exfalso
        have hh : sliceOf (L.flatten ++ r) 196608 65536 = sliceOf L.flatten 196608 65536 :=
          lemma_sliceOf_within (List.prefix_append _ _) _ _ (by omega)
        rw [hh] at he
        cases hinv with
        | early hlt => exact hl hlt
        | nometa _ hr => rw [hr] at he; simp at he
        | withMeta mo _ hr _ => rw [hr] at he; simp at he
        | withVds mo ioff ilen L' _ hr _ _ => rw [hr] at he; simp at he
    | some e =>
      right
      obtain ⟨hl, hr, _⟩ : VErr q st e := hnext
      have hql : q.length ≤ L.flatten.length := by
        simpa using List.IsPrefix.length_le hqL
      refine ⟨e, lemma_decOf_some st e, by omega, ?_⟩
      rw [lemma_sliceOf_within hq _ _ (by omega)]
      exact hr

theorem lemma_xrun_vhdx (s0 : Insp) (h0 : Insp.init .vhdx = some s0) (cs : List Bytes)
    (hf : VhdxForward cs.flatten) (hs : VhdxMetaSigOK cs.flatten) :
    (xrun realOps s0 cs).2 = vhdxOutcome cs.flatten := by
  have hpre : ∀ pre c post, cs = pre ++ c :: post →
      (decOf realOps (gfeed realOps s0 (pre ++ [c])) = decSpec (pre ++ [c]).flatten ∧
        ∀ e, findMetaRegionB (sliceOf cs.flatten 196608 65536) = .error e → (pre ++ [c]).flatten.length < 262144) ∨
      (∃ e, decOf realOps (gfeed realOps s0 (pre ++ [c])) = .raised e ∧ 262144 ≤ (pre ++ [c]).flatten.length ∧
        findMetaRegionB (sliceOf cs.flatten 196608 65536) = .error e) := by
    intro pre c post hcs
    have hfl : cs.flatten = (pre ++ [c]).flatten ++ post.flatten := by rw [hcs]; simp
    rw [hfl] at hf hs ⊢
    exact lemma_vhdx_boundary s0 h0 (pre ++ [c]) post.flatten hf hs
  refine (xrun_eq_of_stable realOps s0 cs (fun q => if q.length < 262144 then .done else
    match findMetaRegionB (sliceOf cs.flatten 196608 65536) with
    | .error e => .raised e
    | .ok _ => decSpec q) ?_ ?_ (if_pos (by simp))).trans rfl  -- `vhdxOutcome` is this function, unfolded
  · intro pre c post hcs
    rcases hpre pre c post hcs with ⟨hd, hshort⟩ | ⟨e, hd, hge, he⟩
    · rw [hd]
      by_cases hl : (pre ++ [c]).flatten.length < 262144
      · rw [if_pos hl]
        exact lemma_decSpec_short _ hl
      · rw [if_neg hl]
        cases hr : findMetaRegionB (sliceOf cs.flatten 196608 65536) with
        | error e => exact absurd (hshort e hr) hl
        | ok o => rfl
    · rw [hd, if_neg (by omega), he]
  · intro q r
    by_cases hl : q.length < 262144
    · exact .inl (if_pos hl)
    · rw [if_neg hl, if_neg (by rw [List.length_append]; omega)]
      cases findMetaRegionB (sliceOf cs.flatten 196608 65536) with
      | error e => exact .inr rfl
      | ok o => exact lemma_decSpec_prefix q r

end Oslo.Insp
