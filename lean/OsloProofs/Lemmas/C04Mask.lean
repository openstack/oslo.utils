/-
Definitions and lemmas for C04 about keys: how `re` matches a key (`keyMatch`, `keyPrefix`, `occursCI`), the
key literals as pattern items, "a pattern that contains the key cannot match where the key does not occur",
and where a pattern can match in a text that holds the key at a single place (`UniqueAt`).
-/
import OsloModel.Mask
import OsloProofs.Lemmas.C04Flat
namespace Oslo.Mask
open Oslo.Flat

/-- `w` is the key `K` as the compiled pattern reads it: character by character, each in the
    class the key character compiles to (case variants, and U+0130/U+0131/U+017F/U+212A) -/
def keyMatch : List Char → List Char → Bool
  | [], [] => true
  | k :: K, c :: w => (keyCls k).test c && keyMatch K w
  | _, _ => false

/-- the text starts with the key (as `re` reads it) -/
def keyPrefix : List Char → List Char → Bool
  | [], _ => true
  | k :: K, c :: s => (keyCls k).test c && keyPrefix K s
  | _ :: _, [] => false

/-- the key occurs somewhere in the text (as `re` reads it) -/
def occursCI (K : List Char) : List Char → Bool
  | [] => keyPrefix K []
  | c :: s => keyPrefix K (c :: s) || occursCI K s

theorem keyPrefix_of_keyMatch : ∀ (K w t : List Char), keyMatch K w = true → keyPrefix K (w ++ t) = true := by
  intro K
  induction K with
  | nil => intro w t _; rfl
  | cons k K ih =>
    intro w t h
    cases w with
    | nil => simp [keyMatch] at h
    | cons c w =>
      simp only [keyMatch, Bool.and_eq_true] at h
      simp [keyPrefix, h.1, ih w t h.2]

theorem keyMatch_length : ∀ (K w : List Char), keyMatch K w = true → w.length = K.length := by
  intro K
  induction K with
  | nil => intro w h; cases w <;> simp_all [keyMatch]
  | cons k K ih =>
    intro w h
    cases w with
    | nil => simp [keyMatch] at h
    | cons c w =>
      simp only [keyMatch, Bool.and_eq_true] at h
      simp [ih w h.2]

theorem occursCI_of_suffix (K : List Char) : ∀ (a s : List Char), keyPrefix K s = true → occursCI K (a ++ s) = true := by
  intro a
  induction a with
  | nil => intro s h; cases s <;> simp_all [occursCI]
  | cons x a ih => intro s h; simp [occursCI, ih s h]

theorem occursCI_drop (K : List Char) : ∀ (s : List Char) (j : Nat), occursCI K (s.drop j) = true → occursCI K s = true := by
  intro s
  induction s with
  | nil => intro j h; simpa using h
  | cons c s ih =>
    intro j h
    cases j with
    | zero => simpa using h
    | succ j => simp only [List.drop] at h; simp [occursCI, ih j h]

theorem occursCI_append_right (K a b : List Char) (h : occursCI K b = true) : occursCI K (a ++ b) = true := by
  have := occursCI_drop K (a ++ b) a.length (by simpa using h)
  exact this

theorem occursCI_exists (K : List Char) : ∀ (s : List Char), occursCI K s = true →
    ∃ j, j ≤ s.length ∧ keyPrefix K (s.drop j) = true := by
  intro s
  induction s with
  | nil => intro h; exact ⟨0, by simp, by simpa [occursCI] using h⟩
  | cons c s ih =>
    intro h
    simp only [occursCI, Bool.or_eq_true] at h
    rcases h with h | h
    · exact ⟨0, by simp, by simpa using h⟩
    · obtain ⟨j, hj, hk⟩ := ih h
      exact ⟨j + 1, by simp; omega, by simpa using hk⟩

theorem matchSeq_keyItems {α} (rest : List Item) (k : List Char → Option α) :
    ∀ (K s : List Char), matchSeq (keyItems K ++ rest) k s =
      if keyPrefix K s then matchSeq rest k (s.drop K.length) else none := by
  intro K
  induction K with
  | nil => intro s; simp [keyItems, keyPrefix]
  | cons c K ih =>
    intro s
    have hki : keyItems (c :: K) = ⟨keyCls c, 1, some 1⟩ :: keyItems K := by simp [keyItems]
    rw [hki, List.cons_append, matchSeq_one]
    cases s with
    | nil => simp [keyPrefix]
    | cons a t =>
      by_cases ha : (keyCls c).test a = true
      · simp only [ha, if_true, keyPrefix, Bool.true_and, List.length_cons, List.drop_succ_cons]
        exact ih t
      · simp [ha, keyPrefix]

theorem _root_.Oslo.Flat.Greedy.key {K K' s s' : List Char} {rest : List Item} (hK : keyMatch K K' = true)
    (h : Greedy rest s s') : Greedy (keyItems K ++ rest) (K' ++ s) s' := by
  induction K generalizing K' with
  | nil => cases K' with
    | nil => exact h
    | cons => simp [keyMatch] at hK
  | cons k K ih => cases K' with
    | nil => simp [keyMatch] at hK
    | cons x K' =>
      simp only [keyMatch, Bool.and_eq_true] at hK
      exact .one hK.1 (ih hK.2)

theorem _root_.Oslo.Flat.Consumes.keyItems_inv {rest : List Item} : ∀ {K s s' : List Char},
    Consumes (keyItems K ++ rest) s s' → keyPrefix K s = true ∧ Consumes rest (s.drop K.length) s' := by
  intro K
  induction K with
  | nil => intro s s' h; exact ⟨rfl, h⟩
  | cons c K ih =>
    intro s s' h
    obtain ⟨a, t, hs, ha, hr⟩ := Consumes.one_inv (c := keyCls c) h
    obtain ⟨h1, h2⟩ := ih hr
    subst hs
    exact ⟨by simp [keyPrefix, ha, h1], h2⟩

theorem matchPat_none_of_keyPrefix {p : Pattern} {K s : List Char} {rest : List Item}
    (hg : p.g1 = keyItems K ++ rest) (h : keyPrefix K s = false) : matchPat p s = none := by
  rw [matchPat, hg, matchSeq_keyItems, h]; rfl

theorem matchPat_none_of_keyAfter {p : Pattern} {K s : List Char} {it : Item} {rest : List Item} {m : Nat}
    (hg : p.g1 = it :: (keyItems K ++ rest)) (hhi : it.hi = some m) (hlo : it.lo = m)
    (h : keyPrefix K (s.drop m) = false) : matchPat p s = none := by
  rw [matchPat, hg, matchSeq]
  apply tryDown_none
  intro j h1 h2
  have hle : it.run s ≤ m := by unfold Item.run; simp only [hhi]; omega
  have : j = m := by omega
  subst this
  rw [matchSeq_keyItems, h]; rfl

theorem instItems_key (ki : List Item) : ∀ (ts : List TItem), TItem.key ∈ ts →
    ∃ A B, instItems ki ts = A ++ ki ++ B := by
  intro ts
  induction ts with
  | nil => intro h; simp at h
  | cons t ts ih =>
    intro h
    cases t with
    | key => exact ⟨[], instItems ki ts, by simp [instItems]⟩
    | it i =>
      have : TItem.key ∈ ts := by simpa using h
      obtain ⟨A, B, hAB⟩ := ih this
      exact ⟨i :: A, B, by simp [instItems, hAB]⟩

theorem instItems_mem (ki : List Item) (i : Item) : ∀ (ts : List TItem), TItem.it i ∈ ts → i ∈ instItems ki ts := by
  intro ts
  induction ts with
  | nil => intro h; simp at h
  | cons t ts ih =>
    intro h
    cases t with
    | key =>
      have : TItem.it i ∈ ts := by simpa using h
      simp [instItems, ih this]
    | it i' =>
      rcases List.mem_cons.1 h with h | h
      · cases h; simp [instItems]
      · simp [instItems, ih h]

theorem matchPat_none_of_noKey (t : Template) (K s : List Char) (hkey : TItem.key ∈ t.g1)
    (h : occursCI K s = false) : matchPat (t.inst (keyItems K)) s = none :=
  Option.eq_none_iff_forall_ne_some.2 fun b hm => by
    obtain ⟨s1, _, _, c1, _, _, _⟩ := matchPat_some _ _ _ hm
    obtain ⟨A, B, hAB⟩ := instItems_key (keyItems K) t.g1 hkey
    simp only [Template.inst] at c1
    rw [hAB, List.append_assoc] at c1
    obtain ⟨s0, h1, h2⟩ := Consumes.split c1
    obtain ⟨a, ha⟩ := h1.suffix
    rw [ha, occursCI_of_suffix K a s0 h2.keyItems_inv.1] at h
    cases h

theorem subPat_noKey (t : Template) (rep : List RepTok) (K mask s : List Char) (hkey : TItem.key ∈ t.g1)
    (h : occursCI K s = false) : subPat (t.inst (keyItems K)) rep mask s = s :=
  subPat_of_noMatch rep mask fun a b hab => matchPat_none_of_noKey t K b hkey <| by
    cases hd : occursCI K b with
    | false => rfl
    | true => rw [hab, occursCI_append_right K a b hd] at h; cases h

/-- `re.sub` with `\g<1>SECRET\g<2>` on `pre ++ A ++ B ++ C ++ post` when no match starts in `pre`, the pattern
    matches `A|B|C` there, and nothing matches in `post` -/
theorem subPat_rendering2 {p : Pattern} {mask pre A B C post : List Char} (hne : A ++ B ++ C ≠ [])
    (hpre : ∀ j, j < pre.length → matchPat p (pre.drop j ++ (A ++ B ++ C ++ post)) = none)
    (hm : matchPat p (A ++ B ++ C ++ post) = some ⟨(B ++ C ++ post).length, (C ++ post).length, post.length⟩)
    (hpost : subPat p rep2 mask post = post) :
    subPat p rep2 mask (pre ++ (A ++ B ++ C ++ post)) = pre ++ (A ++ mask ++ C ++ post) :=
  subPat_rendering (A := A) (B := B) (C := C) (by simp only [List.append_assoc])
    (by simp only [rep2, expand, List.append_assoc, List.append_nil])
    (by simpa only [List.append_assoc] using hne) hpre (by simpa only [List.append_assoc] using hm) hpost

/-- the same with `\g<1>SECRET` and a pattern without second group -/
theorem subPat_rendering1 {p : Pattern} {mask pre A B post : List Char} (hne : A ++ B ≠ [])
    (hpre : ∀ j, j < pre.length → matchPat p (pre.drop j ++ (A ++ B ++ post)) = none)
    (hm : matchPat p (A ++ B ++ post) = some ⟨(B ++ post).length, post.length, post.length⟩)
    (hpost : subPat p rep1 mask post = post) :
    subPat p rep1 mask (pre ++ (A ++ B ++ post)) = pre ++ (A ++ mask ++ post) :=
  subPat_rendering (A := A) (B := B) (C := []) (by simp only [List.append_assoc, List.nil_append])
    (by simp only [rep1, expand, List.append_assoc, List.append_nil])
    (by simpa only [List.append_nil] using hne) hpre
    (by simpa only [List.append_assoc, List.nil_append] using hm) hpost

/-- wherever the key occurs in `M` (as `re` reads it), it is after `n` characters -/
def UniqueAt (K M : List Char) (n : Nat) : Prop :=
  ∀ a b, M = a ++ b → keyPrefix K b = true → a.length = n

theorem UniqueAt.of_drop {K M : List Char} {n : Nat}
    (h : ∀ j, j ≤ M.length → keyPrefix K (M.drop j) = true → j = n) : UniqueAt K M n := by
  intro a b hM hk
  exact h a.length (by rw [hM]; simp) (by rw [hM]; simpa using hk)

theorem UniqueAt.not_before {K pre R : List Char} (hu : UniqueAt K (pre ++ R) pre.length) (j : Nat)
    (hj : j < pre.length) : keyPrefix K (pre.drop j ++ R) = false := by
  cases hk : keyPrefix K (pre.drop j ++ R) with
  | false => rfl
  | true =>
    have := hu (pre.take j) (pre.drop j ++ R) (by rw [← List.append_assoc, List.take_append_drop]) hk
    rw [List.length_take] at this; omega

theorem UniqueAt.not_after {K pre mid post : List Char} (hu : UniqueAt K (pre ++ (mid ++ post)) pre.length)
    (hmid : mid ≠ []) : occursCI K post = false := by
  cases ho : occursCI K post with
  | false => rfl
  | true =>
    obtain ⟨j, _, hk⟩ := occursCI_exists K post ho
    have := hu (pre ++ (mid ++ post.take j)) (post.drop j)
      (by simp only [List.append_assoc, List.take_append_drop]) hk
    have hml := List.length_pos_iff.2 hmid
    simp only [List.length_append] at this; omega

/-- where a pattern with the key in its first group can match in a text with a single occurrence of the key:
    what precedes the key in the group sits at the end of `pre`, what follows it reads on after the key -/
theorem match_at_unique_key {p : Pattern} {pfx sfx : List Item} {K pre R a b : List Char} {bd : Bounds}
    (hg : p.g1 = pfx ++ (keyItems K ++ sfx)) (hu : UniqueAt K (pre ++ R) pre.length)
    (hab : pre ++ R = a ++ b) (hm : matchPat p b = some bd) :
    ∃ x s1 s2 s3, pre = a ++ x ∧ Consumes pfx (x ++ R) R ∧ Consumes sfx (R.drop K.length) s1 ∧
      Consumes p.mid s1 s2 ∧ Consumes p.g2 s2 s3 := by
  obtain ⟨s1, s2, s3, c1, c2, c3, _⟩ := matchPat_some _ _ _ hm
  rw [hg] at c1
  obtain ⟨b1, cp, ck⟩ := Consumes.split c1
  obtain ⟨hk, cs⟩ := ck.keyItems_inv
  obtain ⟨x, hx⟩ := cp.suffix
  have hM : pre ++ R = (a ++ x) ++ b1 := by rw [hab, hx, List.append_assoc]
  have hlen := hu (a ++ x) b1 hM hk
  obtain ⟨h1, h2⟩ := List.append_inj hM hlen.symm
  subst h2
  exact ⟨x, s1, s2, s3, h1, hx ▸ cp, cs, c2, c3⟩

/-! ### the loop over the keys

`mask_password` tests `key in message.lower()` (`isInfix K (pyLower ·)`), the patterns read the key their own
way (`keyMatch`); neither view implies the other (`ſecret` is read as `secret` by the patterns and is not lowered
to it), so the theorems about the whole function ask for both. -/

theorem foldl_maskStep_fixed (mask M : List Char) : ∀ (keys : List (List Char)),
    (∀ k ∈ keys, maskStep mask M k = M) → keys.foldl (maskStep mask) M = M := by
  intro keys
  induction keys with
  | nil => intro _; rfl
  | cons k keys ih =>
    intro h
    simp only [List.foldl_cons, h k (by simp)]
    exact ih (fun k' hk' => h k' (by simp [hk']))

theorem maskStep_absent {mask M k : List Char} (h : isInfix k (pyLower M) = false) : maskStep mask M k = M := by
  simp only [maskStep, h, Bool.false_eq_true, if_false]

theorem pyLower_append : ∀ (a b : List Char), pyLower (a ++ b) = pyLower a ++ pyLower b := by
  intro a
  induction a with
  | nil => intro b; rfl
  | cons c a ih => intro b; simp [pyLower, ih]

theorem isInfix_append_left (K : List Char) : ∀ (a s : List Char), isInfix K s = true → isInfix K (a ++ s) = true := by
  intro a
  induction a with
  | nil => intro s h; exact h
  | cons c a ih => intro s h; simp [isInfix, ih s h]

theorem isInfix_self_append (K B : List Char) : isInfix K (K ++ B) = true := by
  have hp : K.isPrefixOf (K ++ B) = true := by
    rw [List.isPrefixOf_iff_prefix]; exact List.prefix_append K B
  cases h : K ++ B with
  | nil =>
    have : K = [] := by
      cases K with
      | nil => rfl
      | cons x xs => simp at h
    subst this; simp [isInfix]
  | cons c s => rw [h] at hp; simp [isInfix, hp]

theorem isInfix_spelling (K K' pre rest : List Char) (hlow : pyLower K' = K) :
    isInfix K (pyLower (pre ++ (K' ++ rest))) = true := by
  rw [pyLower_append, pyLower_append, hlow]
  exact isInfix_append_left K _ _ (isInfix_self_append K _)

/-- exactly one key of the list acts on the message -/
theorem foldl_maskStep_single (mask M M' K : List Char) : ∀ (keys : List (List Char)),
    keys.Nodup → K ∈ keys → maskStep mask M K = M' →
    (∀ k ∈ keys, k ≠ K → maskStep mask M k = M ∧ maskStep mask M' k = M') →
    keys.foldl (maskStep mask) M = M' := by
  intro keys
  induction keys with
  | nil => intro _ h; simp at h
  | cons k keys ih =>
    intro hnd hmem hK hoth
    simp only [List.nodup_cons] at hnd
    simp only [List.foldl_cons]
    by_cases hk : k = K
    · subst hk
      rw [hK]
      apply foldl_maskStep_fixed
      intro k' hk'
      exact (hoth k' (by simp [hk']) (fun e => hnd.1 (e ▸ hk'))).2
    · rw [(hoth k (by simp) hk).1]
      have hmem' : K ∈ keys := by
        rcases List.mem_cons.1 hmem with h | h
        · exact absurd h.symm hk
        · exact h
      exact ih hnd.2 hmem' hK (fun k' hk' hne => hoth k' (by simp [hk']) hne)

theorem sanitizeKeys_nodup : Gen.sanitizeKeys.Nodup := by decide +kernel

theorem maskPassword_single_key {K M M' mask : List Char} (hKmem : K ∈ Gen.sanitizeKeys)
    (hin : isInfix K (pyLower M) = true) (happly : applyKey K mask M = M')
    (hother : ∀ k ∈ Gen.sanitizeKeys, k ≠ K →
      isInfix k (pyLower M) = false ∧ isInfix k (pyLower M') = false) :
    maskPassword M mask = M' :=
  foldl_maskStep_single mask M M' K Gen.sanitizeKeys sanitizeKeys_nodup hKmem
    (by simp only [maskStep, hin, if_true]; exact happly)
    fun k hk hne => ⟨maskStep_absent (hother k hk hne).1, maskStep_absent (hother k hk hne).2⟩

theorem keyMatch_excludes {qc : Cls} : ∀ {K K' : List Char}, (∀ k ∈ K, (keyCls k).excludes qc = true) →
    keyMatch K K' = true → ∀ c ∈ K', qc.test c = false := by
  intro K
  induction K with
  | nil => intro K' _ h; cases K' <;> simp_all [keyMatch]
  | cons k K ih =>
    intro K' hq h c hc
    cases K' with
    | nil => simp at hc
    | cons x xs =>
      simp only [keyMatch, Bool.and_eq_true] at h
      rcases List.mem_cons.1 hc with rfl | hc
      · exact Cls.excludes_sound (hq k (by simp)) h.1
      · exact ih (fun k' hk' => hq k' (by simp [hk'])) h.2 c hc

end Oslo.Mask
