/-
Helper lemmas for C11: the model of netaddr.IPNetwork / parse_ip_network.
-/
import OsloProofs.Lemmas.C11Int
import OsloProofs.Lemmas.C11Split
namespace Oslo.Net

/-- netaddr accepts the text as an address of the family: `IPAddress(a, version, INET_PTON)` returns -/
def AddrOK (v : Ver) (a : List Char) : Prop := ∃ x, ipAddress v a = .ok x

/-- the text is an address of the family whose value is a netmask or a hostmask -/
def MaskOK (v : Ver) (p : List Char) : Prop :=
  ∃ m, ipAddress v p = .ok m ∧ (isNetmask v m = true ∨ isHostmask m = true)

/-- what the implementation accepts after the '/': a Python `int()` literal in range, or a mask -/
def PrefixOK (v : Ver) (p : List Char) : Prop :=
  (∃ n : Int, pyInt p = some n ∧ 0 ≤ n ∧ n ≤ (width v : Int)) ∨ (pyInt p = none ∧ MaskOK v p)

theorem lemma_prefixOK_iff (v : Ver) (p : List Char) : prefixOK v p = .ok () ↔ PrefixOK v p := by
  unfold prefixOK PrefixOK MaskOK
  cases hp : pyInt p with
  | some n => simp
  | none =>
    cases hm : ipAddress v p with
    | error e => simp
    | ok m => simp; cases isNetmask v m <;> simp

theorem lemma_parseNetwork_slash_ok {v : Ver} {a p : List Char} (h : '/' ∉ a) :
    parseNetwork v (a ++ '/' :: p) = .ok () ↔ AddrOK v a ∧ PrefixOK v p := by
  simp only [parseNetwork, lemma_splitFirst_append '/' a p h, ← lemma_prefixOK_iff, AddrOK]
  cases ipAddress v a <;> simp

theorem lemma_parseNetwork_noslash_ok (v : Ver) (s : List Char) (h : '/' ∉ s) :
    parseNetwork v s = .ok () ↔ AddrOK v s := by
  simp only [parseNetwork, lemma_splitFirst_of_notMem h, AddrOK]
  cases ipAddress v s <;> simp

/-- `IPAddress(x, 4)` raises ValueError only for a '/' or, from `inet_pton`, a NUL: so does `IPAddress(x, 6)` -/
theorem lemma_v4_valueError (x : List Char) (h : ipAddress .v4 x = .error .valueError) :
    ipAddress .v6 x = .error .valueError := by
  by_cases hs : '/' ∈ x
  · simp [ipAddress, hs]
  · have hn : nul ∈ x := by
      apply Classical.byContradiction; intro h3
      by_cases h1 : ':' ∈ x
      · simp [ipAddress, strToInt4, hs, h1] at h
      · by_cases h2 : (splitOn '.' x).any leadingZero = true
        · simp [ipAddress, strToInt4, hs, h1, h2] at h
        · simp [ipAddress, strToInt4, hs, h1, h2, h3] at h
          split at h <;> cases h
    simp [ipAddress, strToInt6, hs, hn]

theorem lemma_prefix_valueError (p : List Char) (h : prefixOK .v4 p = .error .valueError) :
    prefixOK .v6 p = .error .valueError := by
  unfold prefixOK at h ⊢
  cases hp : pyInt p with
  | some n => rw [hp] at h; simp only at h; split at h <;> cases h
  | none =>
    rw [hp] at h; simp only at h ⊢
    cases hm : ipAddress .v4 p with
    | error e =>
      rw [hm] at h; simp only at h
      cases h
      rw [lemma_v4_valueError p hm]
    | ok m => rw [hm] at h; simp only at h; split at h <;> cases h

theorem lemma_parse_valueError (s : List Char) (h : parseNetwork .v4 s = .error .valueError) :
    parseNetwork .v6 s ≠ .ok () := by
  unfold parseNetwork at h ⊢
  simp only at h ⊢
  cases ha : ipAddress .v4 (splitFirst '/' s).1 with
  | error e =>
    rw [ha] at h; simp only at h; cases h
    rw [lemma_v4_valueError _ ha]; simp
  | ok x =>
    rw [ha] at h; simp only at h
    cases hp : (splitFirst '/' s).2 with
    | none => rw [hp] at h; cases h
    | some p =>
      rw [hp] at h; simp only at h
      cases hb : ipAddress .v6 (splitFirst '/' s).1 with
      | error e => simp
      | ok y => simp [lemma_prefix_valueError p h]

theorem lemma_ipNetwork_ok (s : List Char) :
    ipNetwork s = .ok () ↔ parseNetwork .v4 s = .ok () ∨ parseNetwork .v6 s = .ok () := by
  unfold ipNetwork
  cases h4 : parseNetwork .v4 s with
  | ok u => simp
  | error e =>
    cases e with
    | addrFormat => simp
    | valueError => simp; exact lemma_parse_valueError s h4

theorem lemma_ipAddress_ok_noslash (v : Ver) (p : List Char) (m : Nat) (h : ipAddress v p = .ok m) :
    '/' ∉ p := by
  unfold ipAddress at h
  split at h
  · cases h
  · rename_i hs; simpa using hs

theorem lemma_ipAddress_nil (v : Ver) : ipAddress v [] = .error .addrFormat := by
  cases v <;> rfl

theorem lemma_prefix_shape {v : Ver} {p : List Char} (h : PrefixOK v p) : p ≠ [] ∧ '/' ∉ p := by
  rcases h with ⟨n, hn, _⟩ | ⟨_, m, hm, _⟩
  · constructor
    · intro e; subst e
      have : pyInt [] = none := by decide
      rw [this] at hn; cases hn
    · exact fun hs => lemma_slash_not_intChar (lemma_pyInt_chars p n hn '/' hs)
  · constructor
    · intro e; subst e; rw [lemma_ipAddress_nil] at hm; cases hm
    · exact lemma_ipAddress_ok_noslash v p m hm

theorem lemma_cidr_iff (s : List Char) :
    isValidCidr s = true ↔
      ∃ a p, s = a ++ '/' :: p ∧ '/' ∉ a ∧
        ((AddrOK .v4 a ∧ PrefixOK .v4 p) ∨ (AddrOK .v6 a ∧ PrefixOK .v6 p)) := by
  constructor
  · intro h
    unfold isValidCidr at h
    cases hn : ipNetwork s with
    | error e => rw [hn] at h; cases h
    | ok u =>
      rw [hn] at h; simp only at h
      have hmem : '/' ∈ s := by
        apply Classical.byContradiction; intro hno
        rw [lemma_splitOn_of_notMem hno] at h; cases h
      obtain ⟨a, p, rfl, ha⟩ := lemma_first_split hmem
      refine ⟨a, p, rfl, ha, ?_⟩
      rw [lemma_ipNetwork_ok, lemma_parseNetwork_slash_ok ha, lemma_parseNetwork_slash_ok ha] at hn
      exact hn
  · rintro ⟨a, p, rfl, ha, h⟩
    have hn : ipNetwork (a ++ '/' :: p) = .ok () := by
      rw [lemma_ipNetwork_ok, lemma_parseNetwork_slash_ok ha, lemma_parseNetwork_slash_ok ha]
      exact h
    have hp : p ≠ [] ∧ '/' ∉ p := by
      rcases h with h | h
      · exact lemma_prefix_shape h.2
      · exact lemma_prefix_shape h.2
    unfold isValidCidr
    rw [hn, lemma_splitOn_append '/' a p ha, lemma_splitOn_of_notMem hp.2]
    simp [hp.1]

theorem lemma_cidr6_iff (s : List Char) :
    isValidIPv6Cidr s = true ↔
      ('/' ∉ s ∧ AddrOK .v6 s) ∨
      ∃ a p, s = a ++ '/' :: p ∧ '/' ∉ a ∧ AddrOK .v6 a ∧ PrefixOK .v6 p := by
  have ok : ∀ x : Except NetErr Unit, isOk x = true ↔ x = .ok () := by
    intro x; cases x <;> simp [isOk]
  rw [isValidIPv6Cidr, ok]
  by_cases hmem : '/' ∈ s
  · obtain ⟨a, p, rfl, ha⟩ := lemma_first_split hmem
    rw [lemma_parseNetwork_slash_ok ha]
    constructor
    · intro h
      exact Or.inr ⟨a, p, rfl, ha, h⟩
    · rintro (⟨hno, _⟩ | ⟨a', p', e, ha', h⟩)
      · exact absurd hmem hno
      · obtain ⟨rfl, rfl⟩ := lemma_split_unique ha ha' e
        exact h
  · rw [lemma_parseNetwork_noslash_ok _ s hmem]
    constructor
    · intro h
      exact Or.inl ⟨hmem, h⟩
    · rintro (⟨_, h⟩ | ⟨a', p', e, _⟩)
      · exact h
      · exact absurd (by rw [e]; simp) hmem

end Oslo.Net
