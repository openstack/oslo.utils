/-
Equations of the exception helpers of `OsloModel/Exc.lean`, what a handler program does to the context
`ctxt` names, and the relation `St.evolves P` between the states before and after a step: the
handled-exception stack is the same, every object is kept with what it carries, and the objects created
in between are the documented new exceptions or have a class in `P` (nothing for
`no_invention_outside_N1`, everything for `exec_preserves_chain`).
-/
import OsloModel.Exc
namespace Oslo.Exc

theorem Heap.setTb_setTb (h : Heap) (e : ExcId) (t t' : Tb) :
    (h.setTb e t).setTb e t' = h.setTb e t' := by
  simp only [Heap.setTb, Heap.mk.injEq, true_and, and_true]
  funext i; split <;> rfl

theorem Heap.setTb_through (h : Heap) (e : ExcId) (t : Tb) (f : Frame) :
    (h.setTb e t).through e f = h.setTb e (f :: t) := by
  rw [Heap.through, Heap.setTb_setTb]; simp only [Heap.setTb, if_true]

theorem Heap.setTb_self (h : Heap) (e : ExcId) : h.setTb e (h.tb e) = h := by
  obtain ⟨cls, tb, cause, suppress, next⟩ := h
  simp only [Heap.setTb, Heap.mk.injEq, true_and, and_true]
  funext i
  split <;> simp_all

/-- `with_traceback(t)` guarded by `__traceback__ is not t` is `with_traceback(t)` -/
theorem Heap.setTb_unless_eq (h : Heap) (v : ExcId) (t : Tb) :
    (if h.tb v ≠ t then h.setTb v t else h) = h.setTb v t := by
  split
  · rfl
  · next hq => rw [← Decidable.of_not_not hq, Heap.setTb_self]

theorem enter_eq (c : Sre) (s : St) :
    enter c s = { c with type_ := s.active.map s.heap.cls, value := s.active, tb := s.activeTb } := by
  unfold enter capture St.activeTb
  cases s.active <;> rfl

theorem enter_active (c : Sre) (s : St) (a : ExcId) (h : s.active = some a) :
    enter c s = { c with type_ := some (s.heap.cls a), value := some a, tb := s.heap.tb a } := by
  simp only [enter_eq, St.activeTb, h, Option.map]

theorem force_saved (c : Sre) (s : St) (v : ExcId) (hv : c.value = some v) :
    force c s = ({ s with heap := s.heap.setTb v (.sreForce :: c.tb) },
      { c with value := none, tb := [] }, v) := by
  simp only [force, hv, raiseSaved, Heap.setTb_unless_eq, Heap.setTb_through]

theorem exitSre_saved (f : Frame) (c : Sre) (s : St) (v : ExcId)
    (hfl : c.reraise = true) (hv : c.value = some v) :
    exitSre f c s .ok =
      ({ s with heap := s.heap.setTb v (f :: .sreExit :: .sreForce :: c.tb) }, .raised v) := by
  simp only [exitSre, hfl, if_true, force_saved c s v hv, St.through, Heap.setTb_through]

theorem force_sink (c : Sre) (s : St) : (force c s).2.1.sink = c.sink := by
  unfold force
  split
  · rfl
  · rfl
  · split <;> rfl

theorem exitSre_ne_ok (f : Frame) (c : Sre) (s : St) (o : Compl) (h : c.reraise = true) :
    (exitSre f c s o).2 ≠ .ok := by
  cases o <;> simp [exitSre, h]

theorem exitCtx_sink (c : Sre) (s : St) (o : Compl) : (exitCtx c s o).sink = c.sink := by
  cases o with
  | raised e => rfl
  | ok =>
    simp only [exitCtx]; split
    · exact force_sink c s
    · rfl

/-- the documented new exceptions: RuntimeError (nothing captured), the OSError of a failing remove,
    the exception made by raise_with_cause -/
def Cls.documented (cl : Cls) : Prop := cl = .runtimeError ∨ cl = .osError ∨ cl = .caused

/-- objects are kept with what they carry; `P` is what may be created besides the documented new
    exceptions: nothing (`no_invention_outside_N1`), or anything (`exec_preserves_chain`) -/
def Heap.grows (P : Cls → Prop) (h h' : Heap) : Prop :=
  h.next ≤ h'.next ∧
  (∀ i : Nat, i < h.next → h'.cls i = h.cls i ∧ h'.cause i = h.cause i ∧ h'.suppress i = h.suppress i) ∧
  ∀ i : Nat, h.next ≤ i → i < h'.next → (h'.cls i).documented ∨ P (h'.cls i)

variable {P : Cls → Prop}

theorem Heap.grows.refl (h : Heap) : Heap.grows P h h :=
  ⟨Nat.le_refl _, fun _ _ => ⟨rfl, rfl, rfl⟩, fun _ h1 h2 => absurd h2 (Nat.not_lt.2 h1)⟩

/-- Steps that only touch tracebacks are composed from this and `St.evolves.through`, one lemma per
    layer: `rfl` on the other fields would have to see through the whole step at once. -/
theorem Heap.grows.setTb {a b : Heap} (h : Heap.grows P a b) (e : ExcId) (t : Tb) :
    Heap.grows P a (b.setTb e t) := h

theorem Heap.grows.trans {a b c : Heap} (h1 : Heap.grows P a b) (h2 : Heap.grows P b c) :
    Heap.grows P a c := by
  obtain ⟨n1, k1, f1⟩ := h1
  obtain ⟨n2, k2, f2⟩ := h2
  refine ⟨by omega, fun i hi => ?_, fun i lo hi => ?_⟩
  · have a1 := k1 i hi
    have a2 := k2 i (by omega)
    exact ⟨a2.1.trans a1.1, a2.2.1.trans a1.2.1, a2.2.2.trans a1.2.2⟩
  · by_cases h : i < b.next
    · rw [(k2 i h).1]; exact f1 i lo h
    · exact f2 i (by omega) hi

theorem Heap.grows.alloc (h : Heap) (cl : Cls) (frm : Option (Option ExcId))
    (hc : cl.documented ∨ P cl) :
    Heap.grows P h (h.alloc cl frm).1 := by
  refine ⟨Nat.le_succ _, fun i hi => ?_, fun i lo hi => ?_⟩
  · simp only [Heap.alloc, if_neg (Nat.ne_of_lt hi), and_self]
  · have : i = h.next := by simp only [Heap.alloc] at hi; omega
    simp only [Heap.alloc, this, if_true]; exact hc

/-- what every step of a handler program does to the state, `P` as in `Heap.grows` -/
def St.evolves (P : Cls → Prop) (s s' : St) : Prop :=
  s'.excInfo = s.excInfo ∧ Heap.grows P s.heap s'.heap

theorem St.evolves.refl (s : St) : St.evolves P s s := ⟨rfl, .refl _⟩

theorem St.evolves.trans {a b c : St} (h1 : St.evolves P a b) (h2 : St.evolves P b c) :
    St.evolves P a c :=
  ⟨h2.1.trans h1.1, h1.2.trans h2.2⟩

theorem St.evolves.through {a s : St} (h : St.evolves P a s) (e : ExcId) (f : Frame) :
    St.evolves P a (s.through e f) := h

theorem raiseFresh_evolves (s : St) (cl : Cls) (frm : Option (Option ExcId)) (f : Frame)
    (hc : cl.documented ∨ P cl) : St.evolves P s (s.raiseFresh cl frm f).1 :=
  ⟨rfl, (Heap.grows.alloc s.heap cl frm hc).setTb _ _⟩

/-- every class `force_reraise()` may instantiate from this context (192-197: `self.type_()`, or the
    TypeError of a constructor that needs arguments) is in `P` -/
def Sre.forceIn (P : Cls → Prop) (c : Sre) : Prop :=
  c.value = none → ∀ cl, c.type_ = some cl → P .typeError ∧ P cl

theorem Sre.forceIn_any (c : Sre) : c.forceIn (fun _ => True) := fun _ _ _ => ⟨trivial, trivial⟩

theorem force_evolves (c : Sre) (s : St) (hc : c.forceIn P) : St.evolves P s (force c s).1 := by
  unfold force
  split
  · exact raiseFresh_evolves s _ _ _ (.inl (.inl rfl))
  · simp only [raiseSaved, Heap.setTb_unless_eq]
    exact ⟨rfl, ((Heap.grows.refl _).setTb _ _).setTb _ _⟩
  · next cl hv ht =>
    split
    · exact raiseFresh_evolves s _ _ _ (.inr (hc hv cl ht).1)
    · simp only [raiseSaved, Heap.setTb_unless_eq]
      exact ⟨rfl, ((Heap.grows.alloc s.heap cl none (.inr (hc hv cl ht).2)).setTb _ _).setTb _ _⟩

theorem capture_evolves (check : Bool) (c : Sre) (s : St) :
    St.evolves P s (capture check c s).1 := by
  unfold capture
  split
  · split
    · exact raiseFresh_evolves s _ _ _ (.inl (.inl rfl))
    · exact .refl _
  · exact .refl _

theorem exitSre_evolves (f : Frame) (c : Sre) (s : St) (o : Compl)
    (hc : o = .ok → c.forceIn P) : St.evolves P s (exitSre f c s o).1 := by
  cases o with
  | raised e => simp only [exitSre]; split <;> exact ⟨rfl, .refl _⟩
  | ok =>
    simp only [exitSre]; split
    · exact ((force_evolves c s (hc rfl)).through _ _).through _ _
    · exact .refl _

theorem mkFilter_eq (form : FilterForm) (p : Pred) : mkFilter form p = ⟨p.eval⟩ := by
  cases form <;> rfl

theorem filterExit_evolves (fl : Filter) (s : St) (o : Compl) :
    St.evolves P s (filterExit fl s o).1 := by
  cases o with
  | ok => exact .refl _
  | raised e =>
    simp only [filterExit, callPred]
    cases fl.shouldIgnore e
    · exact .refl _
    · exact .refl _
    · exact (((St.evolves.refl _).through _ _).through _ _).through _ _

/-- a rejected exception comes out of `filt(ex)` the same way whether or not it is the one being
    handled: restoring the traceback `sys.exc_info()` reports (348-357) restores its own -/
theorem filterCall_reject (fl : Filter) (e : ExcId) (s : St) (h : fl.shouldIgnore e = .reject) :
    filterCall fl e s = ((s.through e .filtCall).through e .scen, .raised e) := by
  simp only [filterCall, callPred, h, Heap.setTb_unless_eq]
  split
  · next ha => simp only [St.activeTb, ha, Heap.setTb_self]; rfl
  · rfl

theorem filterCall_evolves (fl : Filter) (e : ExcId) (s : St) :
    St.evolves P s (filterCall fl e s).1 := by
  cases h : fl.shouldIgnore e with
  | accept => simp only [filterCall, callPred, h]; exact .refl _
  | reject => rw [filterCall_reject fl e s h]; exact ((St.evolves.refl _).through _ _).through _ _
  | raises x =>
    simp only [filterCall, callPred, h]
    exact (((St.evolves.refl _).through _ _).through _ _).through _ _

theorem cmExit_evolves_ne_ok (v : ExcId) (t : Tb) (x : ExcId) (s : St) :
    St.evolves P s (cmExit v t x s).1 ∧ (cmExit v t x s).2 ≠ .ok := by
  simp only [cmExit]
  split
  · exact ⟨⟨rfl, (St.evolves.through (.refl s) x .cmExit).2.setTb _ _⟩, nofun⟩
  · exact ⟨((St.evolves.refl _).through _ _).through _ _, nofun⟩

theorem deleteIfExists_not_dir (s : St) (h : s.path ≠ .dir) :
    deleteIfExists s = ({ s with path := .absent }, .ok) := by
  unfold deleteIfExists
  split
  · next hp => rw [← hp]
  · rfl
  · rfl
  · next hp => exact absurd hp h

theorem deleteIfExists_dir (s : St) (h : s.path = .dir) :
    deleteIfExists s = ((s.raiseFresh .osError none .delete).1, .raised s.heap.next) := by
  simp only [deleteIfExists, h]; rfl

theorem deleteIfExists_evolves (s : St) : St.evolves P s (deleteIfExists s).1 := by
  unfold deleteIfExists
  split
  · exact .refl _
  · exact ⟨rfl, .refl _⟩
  · exact ⟨rfl, .refl _⟩
  · exact raiseFresh_evolves s _ _ _ (.inl (.inr (.inl rfl)))

theorem callRemove_evolves (rm : RemoveFn) (s : St) : St.evolves P s (callRemove rm s).1 := by
  cases rm with
  | default => exact deleteIfExists_evolves s
  | noop => exact .refl _
  | raises e => exact (St.evolves.refl _).through _ _
  | wrapped =>
    have h := deleteIfExists_evolves (P := P) s
    simp only [callRemove]
    split
    · next heq => rw [heq] at h; exact h.through _ _
    · exact h

/-- an exception outside `Exception` is not caught by the generator: it comes back out of `gen.throw`
    and gets the traceback it had at the `with` statement again -/
theorem rpoeExit_not_exc (rm : RemoveFn) (e : ExcId) (s : St) (hex : (s.heap.cls e).isExc = false) :
    rpoeExit rm e s = (s, .raised e) := by
  have hcls : (s.through e .rpoeGen).heap.cls e = s.heap.cls e := rfl
  simp only [rpoeExit, hcls, hex, Bool.false_eq_true, if_false, cmExit, if_true]
  simp only [St.through, Heap.through, Heap.setTb_setTb, Heap.setTb_self]

/-- `remove(path)` returned, leaving the state `s3`: the internal context re-raises `e`, and the
    generator context manager gives it back the traceback it had at the `with` statement -/
theorem rpoeExit_of_remove_ok (rm : RemoveFn) (e : ExcId) (s s3 : St) (hex : (s.heap.cls e).isExc = true)
    (hrm : callRemove rm { s.through e .rpoeGen with excInfo := e :: s.excInfo } = (s3, .ok)) :
    rpoeExit rm e s =
      ({ s3 with heap := s3.heap.setTb e (s.heap.tb e), excInfo := s.excInfo }, .raised e) := by
  have hcls : (s.through e .rpoeGen).heap.cls e = s.heap.cls e := rfl
  have hx : (s.through e .rpoeGen).excInfo = s.excInfo := rfl
  simp only [rpoeExit, hcls, hex, if_true, hx, hrm, removeOut]
  rw [exitSre_saved _ _ _ e rfl (by rw [enter_eq]; rfl)]
  simp only [cmExit, if_true, St.through, Heap.setTb_through, Heap.setTb_setTb]

/-- `remove(path)` raised `x`, leaving the state `s3`: the internal context logs the original, with the
    traceback it had inside the generator, and `x` goes on through the generator context manager -/
theorem rpoeExit_of_remove_raised (rm : RemoveFn) (e x : ExcId) (s s3 : St)
    (hex : (s.heap.cls e).isExc = true)
    (hrm : callRemove rm { s.through e .rpoeGen with excInfo := e :: s.excInfo } = (s3, .raised x)) :
    rpoeExit rm e s = cmExit e (s.heap.tb e) x
      { s3.through x .rpoeGen with
        log := s3.log ++ [⟨some e, .rpoeGen :: s.heap.tb e, .library⟩], excInfo := s.excInfo } := by
  have hcls : (s.through e .rpoeGen).heap.cls e = s.heap.cls e := rfl
  have hx : (s.through e .rpoeGen).excInfo = s.excInfo := rfl
  simp only [rpoeExit, hcls, hex, if_true, hx, hrm, removeOut, exitSre, enter_eq]
  simp [Sre.init, St.active, St.activeTb, St.through, Heap.through, Heap.setTb]

theorem rpoeExit_not_dir (rm : RemoveFn) (e : ExcId) (s : St) (hex : (s.heap.cls e).isExc = true)
    (hrm : rm = .default ∨ rm = .wrapped) (hdir : s.path ≠ .dir) :
    rpoeExit rm e s = ({ s with path := .absent }, .raised e) := by
  have hd := deleteIfExists_not_dir { s.through e .rpoeGen with excInfo := e :: s.excInfo } hdir
  have hcr : callRemove rm { s.through e .rpoeGen with excInfo := e :: s.excInfo } =
      ({ s.through e .rpoeGen with excInfo := e :: s.excInfo, path := .absent }, .ok) := by
    rcases hrm with rfl | rfl <;> simp only [callRemove, hd]
  rw [rpoeExit_of_remove_ok rm e s _ hex hcr]
  simp only [St.through, Heap.through, Heap.setTb_setTb, Heap.setTb_self]

theorem rpoeExit_noop (e : ExcId) (s : St) (hex : (s.heap.cls e).isExc = true) :
    rpoeExit .noop e s = (s, .raised e) := by
  rw [rpoeExit_of_remove_ok .noop e s _ hex rfl]
  simp only [St.through, Heap.through, Heap.setTb_setTb, Heap.setTb_self]

theorem callRemove_dir (rm : RemoveFn) (s : St) (hrm : rm = .default ∨ rm = .wrapped)
    (h : s.path = .dir) :
    ∃ s3, callRemove rm s = (s3, .raised s.heap.next) ∧ s3.heap.cls s.heap.next = .osError ∧
      s3.log = s.log ∧ s3.path = .dir := by
  have hd := deleteIfExists_dir s h
  have hc : (s.raiseFresh .osError none .delete).1.heap.cls s.heap.next = .osError := by
    simp [St.raiseFresh, Heap.alloc, Heap.through, Heap.setTb]
  rcases hrm with rfl | rfl
  · exact ⟨_, hd, hc, rfl, h⟩
  · exact ⟨(s.raiseFresh .osError none .delete).1.through s.heap.next .removeFn,
      by simp only [callRemove, hd], hc, rfl, h⟩

theorem rpoeExit_dir (rm : RemoveFn) (e : ExcId) (s : St) (hex : (s.heap.cls e).isExc = true)
    (he : e < s.heap.next) (hrm : rm = .default ∨ rm = .wrapped) (hdir : s.path = .dir) :
    (rpoeExit rm e s).2 = .raised s.heap.next ∧
    (rpoeExit rm e s).1.heap.cls s.heap.next = .osError ∧
    (rpoeExit rm e s).1.log = s.log ++ [⟨some e, .rpoeGen :: s.heap.tb e, .library⟩] ∧
    (rpoeExit rm e s).1.path = .dir := by
  obtain ⟨s3, hcr, hcls, hlog, hpath⟩ :=
    callRemove_dir rm { s.through e .rpoeGen with excInfo := e :: s.excInfo } hrm hdir
  rw [rpoeExit_of_remove_raised rm e s.heap.next s s3 hex hcr, cmExit, if_neg (Nat.ne_of_gt he)]
  exact ⟨rfl, hcls, congrArg (· ++ _) hlog, hpath⟩

theorem rpoeExit_evolves_ne_ok (rm : RemoveFn) (e : ExcId) (s : St) :
    St.evolves P s (rpoeExit rm e s).1 ∧ (rpoeExit rm e s).2 ≠ .ok := by
  cases hex : (s.heap.cls e).isExc with
  | false =>
    rw [rpoeExit_not_exc rm e s hex]
    exact ⟨.refl _, nofun⟩
  | true =>
    have hg := (callRemove_evolves (P := P) rm
      { s.through e .rpoeGen with excInfo := e :: s.excInfo }).2
    cases hrm : callRemove rm { s.through e .rpoeGen with excInfo := e :: s.excInfo } with
    | mk s3 o =>
      rw [hrm] at hg
      cases o with
      | ok =>
        rw [rpoeExit_of_remove_ok rm e s s3 hex hrm]
        exact ⟨⟨rfl, hg.setTb _ _⟩, nofun⟩
      | raised x =>
        rw [rpoeExit_of_remove_raised rm e x s s3 hex hrm]
        have h := cmExit_evolves_ne_ok (P := P) e (s.heap.tb e) x { s3.through x .rpoeGen with
          log := s3.log ++ [⟨some e, .rpoeGen :: s.heap.tb e, .library⟩], excInfo := s.excInfo }
        exact ⟨⟨h.1.1, hg.trans h.1.2⟩, h.2⟩

/-- a nested `with` statement is the `with` statement on an existing context object, run on a new one;
    afterwards `ctxt` names the enclosing context again -/
theorem exec_nest (fl : Bool) (body : Body) (c : Sre) (s : St) :
    exec (.nest fl body) c s =
      ⟨(exec (.enterCur body) (Sre.init fl) s).st, c, (exec (.enterCur body) (Sre.init fl) s).out⟩ := rfl

/-- what comes after a `with` statement on a new context object: `late` runs on that object if the
    statement `w` ended normally; either way `ctxt` names the enclosing context `c` again -/
def Res.thenLate (w : Res) (late : Body) (c : Sre) : Res :=
  match w.out with
  | .ok => ⟨(exec late w.ctx w.st).st, c, (exec late w.ctx w.st).out⟩
  | .raised x => ⟨w.st, c, .raised x⟩

theorem exec_nestThen (fl : Bool) (body late : Body) (c : Sre) (s : St) :
    exec (.nestThen fl body late) c s = (exec (.enterCur body) (Sre.init fl) s).thenLate late c := rfl

theorem exec_handleNestThen (e : ExcId) (fl : Bool) (body late : Body) (c : Sre) (s : St) :
    exec (.handleNestThen e fl body late) c s =
      (exec (.handle e (.enterCur body)) (Sre.init fl) s).thenLate late c := rfl

/-- induction on handler programs that uses the three equations above: the case of a nested `with`
    statement has the hypothesis for `enterCur body` (under `handle e` for `handleNestThen`) -/
theorem Body.induction_with {M : Body → Prop}
    (nop : M .nop) (raiseCatch : ∀ e, M (.raiseCatch e)) (raiseNew : ∀ e, M (.raiseNew e))
    (setReraise : ∀ b, M (.setReraise b)) (forceReraise : ∀ caught, M (.forceReraise caught))
    (capture : M .capture) (filterCall : ∀ form p e, M (.filterCall form p e)) (rwc : ∀ x, M (.rwc x))
    (seq : ∀ a b, M a → M b → M (.seq a b)) (handle : ∀ e h, M h → M (.handle e h))
    (filterCtx : ∀ form p b, M b → M (.filterCtx form p b)) (rpoe : ∀ rm b, M b → M (.rpoe rm b))
    (enterCur : ∀ b, M b → M (.enterCur b)) (swallow : ∀ b, M b → M (.swallow b))
    (nest : ∀ fl b, M (.enterCur b) → M (.nest fl b))
    (nestThen : ∀ fl b l, M (.enterCur b) → M l → M (.nestThen fl b l))
    (handleNestThen : ∀ e fl b l, M (.handle e (.enterCur b)) → M l → M (.handleNestThen e fl b l))
    (b : Body) : M b := by
  induction b with
  | nest fl b ih => exact nest fl b (enterCur b ih)
  | nestThen fl b l ihb ihl => exact nestThen fl b l (enterCur b ihb) ihl
  | handleNestThen e fl b l ihb ihl => exact handleNestThen e fl b l (handle e _ (enterCur b ihb)) ihl
  | _ => apply_assumption <;> assumption

/-- `exec_logger_kept` and `sre_saved_invariant` are the two halves -/
theorem exec_ctx (b : Body) (c : Sre) (s : St) :
    (exec b c s).ctx.sink = c.sink ∧
    (b.direct = false → (exec b c s).ctx.type_ = c.type_ ∧ (exec b c s).ctx.value = c.value ∧
      (exec b c s).ctx.tb = c.tb) := by
  induction b generalizing c s with
  | nop | raiseCatch | raiseNew | setReraise => exact ⟨rfl, fun _ => ⟨rfl, rfl, rfl⟩⟩
  | nest | filterCall | rwc => exact ⟨rfl, fun _ => ⟨rfl, rfl, rfl⟩⟩
  | nestThen | handleNestThen => simp only [exec]; split <;> exact ⟨rfl, fun _ => ⟨rfl, rfl, rfl⟩⟩
  | forceReraise caught => exact ⟨force_sink c s, nofun⟩
  | capture =>
    refine ⟨?_, nofun⟩
    simp only [exec, Oslo.Exc.capture]
    cases s.active <;> simp [St.raiseFresh]
  | enterCur body ih =>
    refine ⟨?_, nofun⟩
    simp only [exec]
    rw [exitCtx_sink, (ih _ _).1, enter_eq]
  | seq a b iha ihb =>
    simp only [exec, Body.direct, Bool.or_eq_false_iff]
    split
    · have h1 := iha c s
      have h2 := ihb (exec a c s).ctx (exec a c s).st
      refine ⟨h2.1.trans h1.1, fun h => ?_⟩
      have h1 := h1.2 h.1
      have h2 := h2.2 h.2
      exact ⟨h2.1.trans h1.1, h2.2.1.trans h1.2.1, h2.2.2.trans h1.2.2⟩
    · exact ⟨(iha c s).1, fun h => (iha c s).2 h.1⟩
  | handle e hd ih => exact ih _ _
  | filterCtx form p body ih => exact ih _ _
  | rpoe rm body ih => simp only [exec]; split <;> exact ih _ _
  | swallow body ih => simp only [exec]; split <;> exact ih _ _

theorem exec_entered (c₀ : Sre) (body : Body) (s : St) (e₀ : ExcId)
    (hact : s.active = some e₀) (hd : body.direct = false) :
    (exec body (enter c₀ s) s).ctx.value = some e₀ ∧
    (exec body (enter c₀ s) s).ctx.tb = s.heap.tb e₀ ∧
    (exec body (enter c₀ s) s).ctx.sink = c₀.sink := by
  have h := exec_ctx body (enter c₀ s) s
  rw [(h.2 hd).2.1, (h.2 hd).2.2, h.1, enter_active c₀ s e₀ hact]
  exact ⟨rfl, rfl, rfl⟩

theorem exec_evolves (b : Body) (c : Sre) (s : St) :
    St.evolves (fun _ => True) s (exec b c s).st := by
  induction b using Body.induction_with generalizing c s with
  | nop | setReraise => exact .refl _
  | raiseCatch | raiseNew => exact (St.evolves.refl _).through _ _
  | forceReraise caught => exact (force_evolves c s c.forceIn_any).through _ _
  | capture =>
    have h := capture_evolves (P := fun _ => True) true c s
    simp only [exec]
    split
    · next heq => rw [heq] at h; exact h
    · next heq => rw [heq] at h; exact h.through _ _
  | rwc x => exact (raiseFresh_evolves s .caused _ .rwc (.inl (.inr (.inr rfl)))).through _ _
  | filterCall form p e => exact filterCall_evolves _ _ _
  | seq a b iha ihb =>
    simp only [exec]
    split
    · exact (iha c s).trans (ihb _ _)
    · exact iha c s
  | handle e h ih =>
    -- inside the `except` block the stack is longer; leaving it puts `s.excInfo` back
    exact ⟨rfl, ((St.evolves.refl s).through e .scen).2.trans
      (ih c { s.through e .scen with excInfo := e :: s.excInfo }).2⟩
  | filterCtx form p body ih => exact (ih c s).trans (filterExit_evolves _ _ _)
  | rpoe rm body ih =>
    simp only [exec]
    split
    · exact ih c s
    · exact (ih c s).trans (rpoeExit_evolves_ne_ok _ _ _).1
  | swallow body ih => simp only [exec]; split <;> exact ih _ _
  | enterCur body ih => exact (ih _ _).trans (exitSre_evolves _ _ _ _ fun _ => Sre.forceIn_any _)
  | nest fl body ih => exact ih (Sre.init fl) s
  | nestThen fl body late ihb ihl =>
    rw [exec_nestThen, Res.thenLate]
    split
    · exact (ihb _ s).trans (ihl _ _)
    · exact ihb _ s
  | handleNestThen e fl body late ihb ihl =>
    rw [exec_handleNestThen, Res.thenLate]
    split
    · exact (ihb _ s).trans (ihl _ _)
    · exact ihb _ s

end Oslo.Exc
