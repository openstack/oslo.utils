/-
VMDK, sparse-header mode: the inspector states reachable from a stream with a valid KDMV header,
written out explicitly, and what one `eat_chunk` does to each of them.

Three shapes of state, in the order of the file:
* `vPost` — header complete, descriptor at sector 1: header, (footer), relocated descriptor region.
* `vPre`  — fewer than 64 bytes streamed: the two initial regions (header; offset-0 descriptor).
* `vErr`  — `vPre` plus the footer region if one is announced: the state inside the `post_process`
  call that sees the complete header.  With the descriptor at sector 1 relocation turns it into a
  `vPost`; otherwise `post_process` raises in it and the inspector is not fed again.
What is chunk-dependent in them (how much of the first 512 bytes the header region holds, where the
footer window started, the residue of an early parse of the offset-0 descriptor region) is kept as
parameters constrained by invariants; everything the verdict reads is a function of the stream.
-/
import OsloProofs.Lemmas.SliceEngine
namespace Oslo.Insp

theorem lemma_kdmv_length : kdmv.length = 4 := by rw [kdmv, ascii_ofList]; rfl

/-! The regions of `VMDKInspector` (`Gen.vmdk_regions`; `lemma_vmdk_init` checks the first two against
it): the 512-byte header region, complete from 64 bytes (`MIN_SPARSE_HEADER`) on; the offset-0
descriptor region of `DESC_MAX_SIZE` bytes, complete from 4 bytes on; the descriptor region relocated
to sector 1; the 1536-byte end-capture region for the footer.  Identities count up in order of
creation: 0, 1, then 2 for the footer if there is one, and the next free one (2 or 3) for the relocated
descriptor. -/

def vHdrR (d : Bytes) : Region :=
  { rid := 0, offset := 0, length := 512, minLength := some 64, data := d, isEnd := false, endDone := false }
def vDesc0R (d : Bytes) : Region :=
  { rid := 1, offset := 0, length := 1048575, minLength := some 4, data := d, isEnd := false, endDone := false }
def vDescR (rid dl : Nat) (d : Bytes) : Region :=
  { rid := rid, offset := 512, length := dl, minLength := none, data := d, isEnd := false, endDone := false }
def vFootR (off : Nat) (d : Bytes) (done : Bool) : Region :=
  { rid := 2, offset := off, length := 1536, minLength := none, data := d, isEnd := true, endDone := done }

/-- the state after relocation: `foot` — a footer is announced; `n` bytes streamed; `hd`, `dd`, `fd` —
    what the header, descriptor and footer regions hold; `dl` the descriptor region's length, `fo` the
    footer window's offset; `fin` — `finish()` was called; `dt`, `vt` — `desc_text`, `vmdktype` -/
def vPost (foot : Bool) (n : Nat) (hd dd : Bytes) (dl : Nat) (fo : Nat) (fd : Bytes) (fin : Bool)
    (dt : Option Bytes) (vt : Bytes) : Insp :=
  { fmt := .vmdk, total := n,
    regions := if foot then [("header", vHdrR hd), ("footer", vFootR fo fd fin), ("descriptor", vDescR 3 dl dd)]
               else [("header", vHdrR hd), ("descriptor", vDescR 2 dl dd)],
    nextRid := if foot then 4 else 3, finished := fin,
    checks := if foot then ["descriptor", "footer"] else ["descriptor"],
    qcowInfo := none, descText := dt, vmdkType := vt }

/-- the part of the descriptor region before the first NUL -/
def descCut (d : Bytes) : Bytes :=
  match findSub d [0] 0 with
  | some i => d.take i
  | none => d

/-- `createType` of a lower-cased descriptor text -/
def descType (text : Bytes) : Bytes :=
  match findSub text createTypeKey 0 with
  | none => formatNotFound
  | some k =>
    let typeIdx := k + createTypeKey.length
    match findSub text [0x22] typeIdx with
    | some typeEnd => if typeEnd - typeIdx < 64 then slice text typeIdx typeEnd else formatNotFound
    | none => slice text typeIdx (text.length - 1)

/-- `_parse_descriptor` as a function of the region bytes: `none` when they do not decode -/
def parseDesc (d : Bytes) : Option (Bytes × Bytes) :=
  if !(descCut d).all isAscii then none
  else some ((descCut d).map lowerByte, descType ((descCut d).map lowerByte))

variable {foot : Bool} {n : Nat} {hd dd p : Bytes} (c : Bytes) {d0 : Bytes} {dl fo : Nat} {fd : Bytes} {fin : Bool}
  {dt : Option Bytes} {vt : Bytes} {H : SparseHeader}

theorem lemma_vmdkParse_eq (s : Insp) (dr : Region) (h : s.region "descriptor" = .ok dr) :
    vmdkParseDescriptor s =
      match parseDesc dr.data with
      | none => (s, none)
      | some (t, ty) => ({ s with descText := some t, vmdkType := ty }, none) := by
  unfold vmdkParseDescriptor parseDesc descCut descType
  rw [h]
  dsimp only
  cases findSub dr.data [0] 0 <;> dsimp only <;> split <;> rfl

theorem lemma_findSubAux_short (needle : Bytes) : ∀ (hay : Bytes) (i : Nat), hay.length < needle.length →
    findSubAux needle hay i = none := by
  intro hay
  induction hay with
  | nil =>
    intro i h
    have : needle.isEmpty = false := by
      cases needle with
      | nil => simp at h
      | cons a l => rfl
    simp [findSubAux, this]
  | cons a t ih =>
    intro i h
    have hs : startsWith (a :: t) needle = false := by
      unfold startsWith
      cases hb : (List.take needle.length (a :: t) == needle)
      · rfl
      · have := congrArg List.length (eq_of_beq hb)
        simp only [List.length_take] at this
        omega
    simp only [findSubAux, hs, Bool.false_eq_true, if_false]
    exact ih (i + 1) (by simp at h; omega)

theorem lemma_createTypeKey_length : createTypeKey.length = 12 := by
  rw [createTypeKey, ascii_ofList]; rfl

theorem lemma_descType_short (t : Bytes) (h : t.length < 12) : descType t = formatNotFound := by
  have : findSubAux createTypeKey t 0 = none :=
    lemma_findSubAux_short _ _ _ (by rw [lemma_createTypeKey_length]; exact h)
  simp [descType, findSub, this]

theorem lemma_descType_nil : descType [] = formatNotFound := lemma_descType_short [] (by decide)

theorem lemma_parseDesc_nil : parseDesc [] = some ([], formatNotFound) := by
  have : descCut [] = [] := by decide
  rw [parseDesc, this, List.map_nil, lemma_descType_nil]
  rfl

theorem lemma_fnf_not_sparse : sparseTypes.contains formatNotFound = false := by
  rw [sparseTypes, formatNotFound]
  repeat rw [ascii_ofList]
  decide +kernel


theorem lemma_vmdk_hdr_complete (hd : Bytes) (h : 64 ≤ hd.length) : (vHdrR hd).complete = true := by
  simp [Region.complete, vHdrR, h]

theorem lemma_vmdk_hdr_incomplete (hd : Bytes) (h : hd.length < 64) : (vHdrR hd).complete = false := by
  simp [Region.complete, vHdrR, Nat.not_le.mpr h]

theorem lemma_vmdk_foot_complete (fo : Nat) (fd : Bytes) : (vFootR fo fd false).complete = false := by
  simp [Region.complete, vFootR]

theorem lemma_vmdk_desc_complete (k dl : Nat) (dd : Bytes) : (vDescR k dl dd).complete = decide (dl = dd.length) := rfl

theorem lemma_vmdk_step_hdr (hd c : Bytes) (pos : Nat) (h : 64 ≤ hd.length) :
    stepRegion c pos (vHdrR hd) = vHdrR hd := by
  unfold stepRegion
  rw [lemma_vmdk_hdr_complete hd h]
  rfl

theorem lemma_vmdk_step_foot (fo : Nat) (fd c : Bytes) (pos : Nat) :
    stepRegion c pos (vFootR fo fd false) =
      vFootR (pos - (lastN 1536 (fd ++ c)).length) (lastN 1536 (fd ++ c)) false := by
  simp [stepRegion, vFootR, Region.capture]

theorem lemma_vmdk_step_desc (k dl : Nat) (p c : Bytes) :
    stepRegion c (p.length + c.length) (vDescR k dl (sliceOf p 512 dl)) =
      vDescR k dl (sliceOf (p ++ c) 512 dl) := by
  unfold stepRegion
  rw [lemma_vmdk_desc_complete]
  by_cases h : dl = (sliceOf p 512 dl).length
  · rw [decide_eq_true h, lemma_sliceOf_append_of_full p c 512 dl h]
    rfl
  · rw [decide_eq_false h]
    exact lemma_capture_step (vDescR _ dl (sliceOf p 512 dl)) p c rfl rfl

theorem lemma_post_capture (foot : Bool) (hd p c : Bytes) (dl fo : Nat) (fd : Bytes) (dt : Option Bytes) (vt : Bytes)
    (hlen : 64 ≤ hd.length) :
    ({ vPost foot p.length hd (sliceOf p 512 dl) dl fo fd false dt vt with total := p.length + c.length } : Insp).captureAll c [] =
      vPost foot (p.length + c.length) hd (sliceOf (p ++ c) 512 dl) dl
        (p.length + c.length - (lastN 1536 (fd ++ c)).length) (lastN 1536 (fd ++ c)) false dt vt := by
  rw [lemma_captureAll_nil]
  cases foot <;>
  simp only [vPost, Bool.false_eq_true, if_false, if_true, List.map_cons, List.map_nil,
      lemma_vmdk_step_hdr hd c _ hlen, lemma_vmdk_step_desc, lemma_vmdk_step_foot]


/-- what `post_process` requires of the header before it looks at the descriptor -/
structure HdrOK (H : SparseHeader) : Prop where
  sig : H.sig = kdmv
  ver : H.ver = 1 ∨ H.ver = 2 ∨ H.ver = 3

theorem lemma_vmdkPP_valid {s : Insp} {hd : Bytes} {H : SparseHeader} (hf : s.fmt = .vmdk)
    (hl : lookupR "header" s.regions = some (vHdrR hd)) (hp : parseSparseHeader hd 0 = .ok H)
    (hlen : 64 ≤ hd.length) (hok : HdrOK H) :
    postProcess s = match vmdkAddFooter s H.gdOffset with
      | .error e => (s, some e)
      | .ok s1 => vmdkRelocate s1 H.descSec H.descNum := by
  have hver : (!(H.ver = 1 || H.ver = 2 || H.ver = 3)) = false := by
    rcases hok.ver with h | h | h <;> simp [h]
  unfold postProcess
  rw [hf]
  show vmdkPostProcess s = _
  unfold vmdkPostProcess
  rw [hl]
  simp only [lemma_vmdk_hdr_complete hd hlen, Bool.not_true, Bool.false_eq_true, if_false]
  rw [show (vHdrR hd).data = hd from rfl, hp]
  simp only [hok.sig, ne_eq, not_true_eq_false, if_false, hver, Bool.false_eq_true]
  cases vmdkAddFooter s H.gdOffset <;> rfl

theorem lemma_vPost_postProcess (hp : parseSparseHeader hd 0 = .ok H)
    (hlen : 64 ≤ hd.length) (hok : HdrOK H) (hds : H.descSec * 512 = Gen.vmdkDescOffset)
    (hfoot : foot = decide (H.gdOffset = Gen.vmdkGdAtEnd)) :
    postProcess (vPost foot n hd dd dl fo fd false dt vt) = (vPost foot n hd dd dl fo fd false dt vt, none) := by
  have hadd : vmdkAddFooter (vPost foot n hd dd dl fo fd false dt vt) H.gdOffset =
      .ok (vPost foot n hd dd dl fo fd false dt vt) := by
    unfold vmdkAddFooter
    cases foot
    · have : ¬ (H.gdOffset = Gen.vmdkGdAtEnd) := by simpa using hfoot.symm
      simp [this]
    · have : (vPost true n hd dd dl fo fd false dt vt).hasRegion "footer" = true := rfl
      simp [this]
  have hr : (vPost foot n hd dd dl fo fd false dt vt).region "descriptor" =
      .ok (vDescR (if foot then 3 else 2) dl dd) := by
    cases foot <;> rfl
  rw [lemma_vmdkPP_valid rfl (by cases foot <;> rfl) hp hlen hok, hadd]
  unfold vmdkRelocate
  dsimp only
  rw [if_neg (by simpa using hds), hr]
  rfl


/-- `eat_chunk` in named stages (no error); the names of the newly complete regions are a premise
    of their own, so that a caller works them out without restating the two region lists -/
theorem lemma_vmdk_eat_unfold_ok {s : Insp} (c : Bytes) {s2 s3 s4 : Insp} (names : List String)
    (hf : s.finished = false)
    (h2 : ({ s with total := s.total + c.length } : Insp).captureAll c [] = s2)
    (h3 : postProcess s2 = (s3, none))
    (h4 : followUp 8 s3 c (s.regions.map (·.2.rid)) = (s4, none))
    (hn : (s4.regions.filter (fun p => p.2.complete &&
        !((s.regions.filter (·.2.complete)).map (·.2.rid)).contains p.2.rid)).map (·.1) = names) :
    eatChunk s c = runCallbacks s4 names := by
  unfold eatChunk
  simp only [h2, h3, h4, hn]
  simp only [hf, Bool.false_eq_true, if_false]

theorem lemma_vmdk_eat_unfold_err {s : Insp} (c : Bytes) {s2 s3 : Insp} {e : Err} (hf : s.finished = false)
    (h2 : ({ s with total := s.total + c.length } : Insp).captureAll c [] = s2)
    (h3 : postProcess s2 = (s3, some e)) :
    eatChunk s c = (s3, some e) := by
  unfold eatChunk
  simp only [h2, h3]
  simp only [hf, Bool.false_eq_true, if_false]

/-- the effect of the descriptor callback on (`desc_text`, `vmdktype`) -/
def applyParse (d : Bytes) (dt : Option Bytes) (vt : Bytes) : Option Bytes × Bytes :=
  match parseDesc d with
  | some (t, ty) => (some t, ty)
  | none => (dt, vt)

theorem lemma_vmdk_callback_desc (s : Insp) (dr : Region) (hf : s.fmt = .vmdk)
    (hr : s.region "descriptor" = .ok dr) :
    runCallbacks s ["descriptor"] =
      ({ s with descText := (applyParse dr.data s.descText s.vmdkType).1,
                vmdkType := (applyParse dr.data s.descText s.vmdkType).2 }, none) := by
  have hrc : regionComplete s "descriptor" = vmdkParseDescriptor s := by
    simp [regionComplete, hf]
  simp only [runCallbacks, hrc, lemma_vmdkParse_eq _ _ hr, applyParse]
  cases parseDesc dr.data <;> rfl

theorem lemma_post_callbacks_desc :
    runCallbacks (vPost foot n hd dd dl fo fd fin dt vt) ["descriptor"] =
      (vPost foot n hd dd dl fo fd fin (applyParse dd dt vt).1 (applyParse dd dt vt).2, none) :=
  lemma_vmdk_callback_desc _ (vDescR (if foot then 3 else 2) dl dd) rfl (by cases foot <;> rfl)

/-- what is known about (`desc_text`, `vmdktype`) while the relocated descriptor region holds `dd`: once
    the region is full and decodes, both are its parse; until then `vmdktype` is `formatNotFound` and
    **`desc_text` is left unconstrained** — an early parse of the offset-0 descriptor region may have left
    a chunk-dependent residue in it, and every observer ignores `desc_text` when there is no createType
    (the premise `hf` of `lemma_descSt_spec`) -/
def DescSt (dd : Bytes) (dl : Nat) (dt : Option Bytes) (vt : Bytes) : Prop :=
  if dl = dd.length then
    (match parseDesc dd with
     | some (t, ty) => dt = some t ∧ vt = ty
     | none => vt = formatNotFound)
  else vt = formatNotFound

theorem lemma_descSt_apply (dd : Bytes) (dl : Nat) (dt : Option Bytes) (h : dl = dd.length) :
    DescSt dd dl (applyParse dd dt formatNotFound).1 (applyParse dd dt formatNotFound).2 := by
  unfold DescSt applyParse
  rw [if_pos h]
  cases parseDesc dd with
  | none => rfl
  | some x => exact ⟨rfl, rfl⟩

/-- **one `eat_chunk` after relocation**: the state stays of the post-relocation shape, holds the
    descriptor slice of the longer prefix, and never raises -/
theorem lemma_post_step (fo : Nat) (fd : Bytes) (hp : parseSparseHeader hd 0 = .ok H)
    (hlen : 64 ≤ hd.length) (hok : HdrOK H) (hds : H.descSec * 512 = Gen.vmdkDescOffset)
    (hfoot : foot = decide (H.gdOffset = Gen.vmdkGdAtEnd))
    (hst : DescSt (sliceOf p 512 dl) dl dt vt) :
    ∃ fo' dt' vt',
      eatChunk (vPost foot p.length hd (sliceOf p 512 dl) dl fo fd false dt vt) c =
        (vPost foot (p.length + c.length) hd (sliceOf (p ++ c) 512 dl) dl fo' (lastN 1536 (fd ++ c)) false dt' vt',
         none) ∧
      DescSt (sliceOf (p ++ c) 512 dl) dl dt' vt' := by
  -- no region is new (every rid is already in `seen`, so `followUp` does nothing); the descriptor
  -- callback runs with the chunk that fills the relocated descriptor region
  rw [lemma_vmdk_eat_unfold_ok c
    (if !decide (dl = (sliceOf p 512 dl).length) && decide (dl = (sliceOf (p ++ c) 512 dl).length)
      then ["descriptor"] else [])
    rfl (lemma_post_capture foot hd p c dl fo fd dt vt hlen)
    (lemma_vPost_postProcess hp hlen hok hds hfoot)
    (lemma_followUp_none 8 _ c _ (by cases foot <;> exact of_decide_eq_true rfl)) (by
      generalize sliceOf p 512 dl = old
      generalize sliceOf (p ++ c) 512 dl = new
      generalize (lastN 1536 (fd ++ c)) = fd'
      generalize p.length + c.length - fd'.length = fo'
      cases foot <;>
      simp only [vPost, Bool.false_eq_true, if_false, if_true, List.filter_cons, List.filter_nil,
        lemma_vmdk_hdr_complete hd hlen, lemma_vmdk_foot_complete, lemma_vmdk_desc_complete, List.map_cons]
      all_goals
        rcases Bool.eq_false_or_eq_true (decide (dl = old.length)) with e1 | e1 <;>
        rcases Bool.eq_false_or_eq_true (decide (dl = new.length)) with e2 | e2 <;>
        simp [e1, e2, vHdrR, vDescR, vFootR])]
  by_cases h1 : dl = (sliceOf p 512 dl).length
  · rw [decide_eq_true h1]
    refine ⟨_, dt, vt, rfl, ?_⟩
    rw [lemma_sliceOf_append_of_full p c 512 dl h1]
    exact hst
  · have hvt : vt = formatNotFound := by
      unfold DescSt at hst
      rw [if_neg h1] at hst
      exact hst
    subst hvt
    rw [decide_eq_false h1]
    by_cases h2 : dl = (sliceOf (p ++ c) 512 dl).length
    · rw [decide_eq_true h2]
      simp only [Bool.not_false, Bool.and_self, if_true]
      rw [lemma_post_callbacks_desc]
      exact ⟨_, _, _, rfl, lemma_descSt_apply _ _ _ h2⟩
    · rw [decide_eq_false h2]
      refine ⟨_, dt, formatNotFound, rfl, ?_⟩
      unfold DescSt
      rw [if_neg h2]


/-! ### the early parse of the offset-0 descriptor region is harmless under a valid KDMV header -/

theorem lemma_findSubAux_zero : ∀ (hay : Bytes) (j k : Nat), hay[k]? = some 0 →
    ∃ i, findSubAux [0] hay j = some i ∧ i ≤ j + k := by
  intro hay
  induction hay with
  | nil => intro j k h; simp at h
  | cons a t ih =>
    intro j k h
    by_cases ha : a = 0
    · subst ha
      exact ⟨j, by simp [findSubAux, startsWith], by omega⟩
    · have hs : startsWith (a :: t) [0] = false := by simp [startsWith, ha]
      cases k with
      | zero => simp at h; exact absurd h ha
      | succ k =>
        simp only [List.getElem?_cons_succ] at h
        obtain ⟨i, hi, hle⟩ := ih (j + 1) k h
        exact ⟨i, by simp only [findSubAux, hs, Bool.false_eq_true, if_false]; exact hi, by omega⟩

/-- at most five bytes, or a NUL at index 5: what every prefix of a valid sparse header looks like, since
    the version (a little-endian u32 at bytes 4..8) is at most 3 (`lemma_nulAt5_of_ver`).  The text before
    the first NUL is then shorter than the 12-byte `createType="` key, so an early parse finds no type. -/
def NulAt5 (d : Bytes) : Prop := d.length ≤ 5 ∨ d[5]? = some 0

theorem lemma_descCut_short (d : Bytes) (h : NulAt5 d) : (descCut d).length ≤ 5 := by
  unfold descCut findSub
  rcases h with h | h
  · split
    · simp only [List.length_take]; omega
    · exact h
  · simp only [Nat.zero_le, if_true, List.drop_zero]
    obtain ⟨i, hi, hle⟩ := lemma_findSubAux_zero d 0 5 h
    rw [hi]
    simp; omega

theorem lemma_applyParse_short (d : Bytes) (dt : Option Bytes) (h : NulAt5 d) :
    (applyParse d dt formatNotFound).2 = formatNotFound := by
  unfold applyParse parseDesc
  split
  · rename_i t ty heq
    split at heq
    · simp at heq
    · simp only [Option.some.injEq, Prod.mk.injEq] at heq
      rw [← heq.2]
      exact lemma_descType_short _ (by have := lemma_descCut_short d h; rw [List.length_map]; omega)
  · rfl

theorem lemma_nulAt5_prefix {a b : Bytes} (h : a <+: b) (hb : NulAt5 b) : NulAt5 a := by
  obtain ⟨t, rfl⟩ := h
  unfold NulAt5 at *
  by_cases hl : a.length ≤ 5
  · exact Or.inl hl
  · rcases hb with hb | hb
    · simp at hb; omega
    · right
      rw [List.getElem?_append_left (by omega)] at hb
      exact hb


/-- `vt` is `formatNotFound` unless an early parse of the offset-0 descriptor region has set it -/
def vPre (n : Nat) (hd d0 : Bytes) (dt : Option Bytes) (vt : Bytes) : Insp :=
  { fmt := .vmdk, total := n, regions := [("header", vHdrR hd), ("descriptor", vDesc0R d0)],
    nextRid := 2, finished := false, checks := ["descriptor"], qcowInfo := none,
    descText := dt, vmdkType := vt }

theorem lemma_vmdk_step_hdr_pre (h : p.length < 64) :
    stepRegion c (p.length + c.length) (vHdrR (sliceOf p 0 512)) = vHdrR (sliceOf (p ++ c) 0 512) := by
  unfold stepRegion
  rw [lemma_vmdk_hdr_incomplete _ (by rw [lemma_sliceOf_length]; omega)]
  exact lemma_capture_step (vHdrR (sliceOf p 0 512)) p c rfl rfl

theorem lemma_vmdk_step_desc0 (h : PlainInv (vDesc0R d0) p) :
    ∃ d0', stepRegion c (p.length + c.length) (vDesc0R d0) = vDesc0R d0' ∧ PlainInv (vDesc0R d0') (p ++ c) ∧
      ((vDesc0R d0).complete = true → d0' = d0) := by
  obtain ⟨hinv, e1, e2, e3, e4, e5, e6⟩ := lemma_plain_step (vDesc0R d0) p c rfl h
  have hs : (if (vDesc0R d0).isEnd || !(vDesc0R d0).complete then (vDesc0R d0).capture c (p.length + c.length)
      else vDesc0R d0) = stepRegion c (p.length + c.length) (vDesc0R d0) := rfl
  rw [hs] at hinv e1 e2 e3 e4 e5 e6
  -- the step changes nothing but the data
  have hr : stepRegion c (p.length + c.length) (vDesc0R d0) =
      vDesc0R (stepRegion c (p.length + c.length) (vDesc0R d0)).data := by
    generalize stepRegion c (p.length + c.length) (vDesc0R d0) = r at *
    obtain ⟨rid, off, len, ml, data, isEnd, endDone⟩ := r
    simp only [vDesc0R] at e1 e2 e3 e4 e5 e6 ⊢
    subst e1 e2 e3 e4 e5 e6
    rfl
  refine ⟨_, hr, hr ▸ hinv, fun hc => ?_⟩
  unfold stepRegion
  rw [hc]
  rfl

theorem lemma_pre_capture {d0' : Bytes} (h : p.length < 64)
    (hd0 : stepRegion c (p.length + c.length) (vDesc0R d0) = vDesc0R d0') :
    ({ vPre p.length (sliceOf p 0 512) d0 dt vt with total := p.length + c.length } : Insp).captureAll c [] =
      vPre (p.length + c.length) (sliceOf (p ++ c) 0 512) d0' dt vt := by
  rw [lemma_captureAll_nil]
  simp only [vPre, List.map_cons, List.map_nil, lemma_vmdk_step_hdr_pre c h, hd0]

theorem lemma_vPre_postProcess (h : hd.length < 64) :
    postProcess (vPre n hd d0 dt vt) = (vPre n hd d0 dt vt, none) := by
  have : postProcess (vPre n hd d0 dt vt) = vmdkPostProcess (vPre n hd d0 dt vt) := rfl
  rw [this]
  unfold vmdkPostProcess
  have hl : lookupR "header" (vPre n hd d0 dt vt).regions = some (vHdrR hd) := rfl
  rw [hl]
  simp only [lemma_vmdk_hdr_incomplete hd h, Bool.not_false, if_true]

theorem lemma_pre_callbacks_desc :
    runCallbacks (vPre n hd d0 dt vt) ["descriptor"] =
      (vPre n hd d0 (applyParse d0 dt vt).1 (applyParse d0 dt vt).2, none) :=
  lemma_vmdk_callback_desc (vPre n hd d0 dt vt) (vDesc0R d0) rfl rfl

theorem lemma_plainInv_nulAt5 (d0 q : Bytes) (h : PlainInv (vDesc0R d0) q) (h5 : NulAt5 q) : NulAt5 d0 := by
  apply lemma_nulAt5_prefix _ h5
  apply List.IsPrefix.trans h.1
  simp only [sliceOf, vDesc0R, List.drop_zero]
  exact List.take_prefix _ _

/-- **one `eat_chunk` that still leaves fewer than 64 bytes streamed**: nothing but capture and,
    possibly, an early parse of the offset-0 descriptor region, which finds no `createType` while
    byte 5 of the stream is NUL -/
theorem lemma_pre_step (dt : Option Bytes) (vt : Bytes) (hlt : (p ++ c).length < 64) (hinv : PlainInv (vDesc0R d0) p) :
    ∃ d0' dt' vt', eatChunk (vPre p.length (sliceOf p 0 512) d0 dt vt) c =
        (vPre (p.length + c.length) (sliceOf (p ++ c) 0 512) d0' dt' vt', none) ∧
      PlainInv (vDesc0R d0') (p ++ c) ∧
      (NulAt5 (p ++ c) → vt = formatNotFound → vt' = formatNotFound) := by
  obtain ⟨d0', hstep, hinv', _⟩ := lemma_vmdk_step_desc0 c hinv
  simp only [List.length_append] at hlt
  have hpl : p.length < 64 := by omega
  have hql : (sliceOf (p ++ c) 0 512).length < 64 := by
    rw [lemma_sliceOf_length, List.length_append]; omega
  have hc := lemma_vmdk_hdr_incomplete _ hql
  have hc0 : (vHdrR (sliceOf p 0 512)).complete = false :=
    lemma_vmdk_hdr_incomplete _ (by rw [lemma_sliceOf_length]; omega)
  rw [lemma_vmdk_eat_unfold_ok c (if (vDesc0R d0').complete && !(vDesc0R d0).complete then ["descriptor"] else [])
    rfl (lemma_pre_capture c hpl hstep) (lemma_vPre_postProcess hql)
    (lemma_followUp_none 8 _ c _ (of_decide_eq_true rfl)) (by
      simp only [vPre, List.filter_cons, List.filter_nil, hc, hc0, Bool.false_and, Bool.false_eq_true, if_false]
      generalize (vDesc0R d0').complete = b1
      generalize (vDesc0R d0).complete = b2
      cases b1 <;> cases b2 <;> simp [vDesc0R])]
  split
  · rw [lemma_pre_callbacks_desc]
    exact ⟨d0', _, _, rfl, hinv', fun h5 hvt =>
      hvt ▸ lemma_applyParse_short d0' dt (lemma_plainInv_nulAt5 d0' _ hinv' h5)⟩
  · exact ⟨d0', dt, vt, rfl, hinv', fun _ hvt => hvt⟩


/-- `vPre` with the footer region added if `foot`: what `post_process` holds between `vmdkAddFooter` and
    `vmdkRelocate`, and the final state when relocation raises (descriptor not at sector 1) -/
def vErr (foot : Bool) (n : Nat) (hd d0 : Bytes) (fin : Bool) (dt : Option Bytes) : Insp :=
  { fmt := .vmdk, total := n,
    regions := if foot then [("header", vHdrR hd), ("descriptor", vDesc0R d0), ("footer", vFootR 1536 [] fin)]
               else [("header", vHdrR hd), ("descriptor", vDesc0R d0)],
    nextRid := if foot then 3 else 2, finished := fin,
    checks := if foot then ["descriptor", "footer"] else ["descriptor"],
    qcowInfo := none, descText := dt, vmdkType := formatNotFound }

theorem lemma_addFooter_pre (gd : Nat)
    (hfoot : foot = decide (gd = Gen.vmdkGdAtEnd)) :
    vmdkAddFooter (vPre n hd d0 dt formatNotFound) gd = .ok (vErr foot n hd d0 false dt) := by
  unfold vmdkAddFooter
  cases foot
  · have : ¬ (gd = Gen.vmdkGdAtEnd) := by simpa using hfoot.symm
    simp only [this, decide_false, Bool.false_and, Bool.false_eq_true, if_false]
    rfl
  · have : gd = Gen.vmdkGdAtEnd := by simpa using hfoot.symm
    have hh : (vPre n hd d0 dt formatNotFound).hasRegion "footer" = false := rfl
    simp only [this, decide_true, hh, Bool.not_false, Bool.and_self, if_true]
    rfl

theorem lemma_relocate_err (ds dn : Nat)
    (hds : ds * 512 ≠ Gen.vmdkDescOffset) :
    vmdkRelocate (vErr foot n hd d0 false dt) ds dn = (vErr foot n hd d0 false dt, some .imageFormat) := by
  unfold vmdkRelocate
  rw [if_pos hds]

theorem lemma_relocate_ok (ds dn : Nat)
    (hds : ds * 512 = Gen.vmdkDescOffset) :
    vmdkRelocate (vErr foot n hd d0 false dt) ds dn =
      (vPost foot n hd [] (min (dn * 512) Gen.vmdkDescMaxSize) 1536 [] false dt formatNotFound, none) := by
  unfold vmdkRelocate
  rw [if_neg (by simpa using hds), hds]
  cases foot <;> rfl

theorem lemma_transition_pp (hp : parseSparseHeader hd 0 = .ok H) (hlen : 64 ≤ hd.length) (hok : HdrOK H)
    (hfoot : foot = decide (H.gdOffset = Gen.vmdkGdAtEnd)) :
    postProcess (vPre n hd d0 dt formatNotFound) = vmdkRelocate (vErr foot n hd d0 false dt) H.descSec H.descNum := by
  rw [lemma_vmdkPP_valid rfl rfl hp hlen hok, lemma_addFooter_pre _ hfoot]

/-- restricting `_capture` to a set of names changes nothing when every region that would capture
    (incomplete, or an end region) is in the set -/
theorem lemma_captureAll_covering (s : Insp) (c : Bytes) (only : List String)
    (h : (s.regions.all fun p => only.contains p.1 || !(p.2.isEnd || !p.2.complete)) = true) :
    s.captureAll c only = s.captureAll c [] := by
  unfold Insp.captureAll
  congr 1
  apply List.map_congr_left
  intro p hp
  have := List.all_eq_true.mp h p hp
  cases hc : (p.2.isEnd || !p.2.complete)
  · simp only [Bool.and_false]
  · rw [hc, Bool.not_true, Bool.or_false] at this
    rw [this]
    simp

theorem lemma_transition_follow (hp : parseSparseHeader hd 0 = .ok H) (hlen : 64 ≤ hd.length) (hok : HdrOK H)
    (hds : H.descSec * 512 = Gen.vmdkDescOffset) (hfoot : foot = decide (H.gdOffset = Gen.vmdkGdAtEnd)) :
    followUp 8 (vPost foot (p.length + c.length) hd (sliceOf p 512 dl) dl 1536 [] false dt formatNotFound) c [0, 1] =
      (vPost foot (p.length + c.length) hd (sliceOf (p ++ c) 512 dl) dl
        (p.length + c.length - (lastN 1536 c).length) (lastN 1536 c) false dt formatNotFound, none) := by
  -- the footer and descriptor regions are new: they are presented with the chunk; the header, the
  -- only region left out, is complete and would not have captured anyway
  have hcap := (lemma_captureAll_covering
      (vPost foot (p.length + c.length) hd (sliceOf p 512 dl) dl 1536 [] false dt formatNotFound) c
      (((vPost foot (p.length + c.length) hd (sliceOf p 512 dl) dl 1536 [] false dt formatNotFound).regions.filter
        (fun x => ![0, 1].contains x.2.rid)).map (·.1))
      (by
        cases foot <;>
        simp only [vPost, Bool.false_eq_true, if_false, if_true, List.all_cons, lemma_vmdk_hdr_complete hd hlen] <;>
        rfl)).trans
    (lemma_post_capture foot hd p c dl 1536 [] dt formatNotFound hlen)
  have hne : ((vPost foot (p.length + c.length) hd (sliceOf p 512 dl) dl 1536 [] false dt formatNotFound).regions.filter
        (fun x => ![0, 1].contains x.2.rid)).isEmpty = false := by
    cases foot <;> rfl
  show followUp (7 + 1) _ _ _ = _
  unfold followUp
  simp only [hne, Bool.false_eq_true, if_false, hcap, List.nil_append]
  rw [lemma_vPost_postProcess hp hlen hok hds hfoot]
  simp only
  exact lemma_followUp_none 7 _ c _ (by cases foot <;> exact of_decide_eq_true rfl)


theorem lemma_vmdk_parse_sliceOf0 (q : Bytes) :
    parseSparseHeader (sliceOf q 0 512) 0 = parseSparseHeader q 0 := by
  have : slice (sliceOf q 0 512) 0 (0 + Gen.vmdkMinSparseHeader) = slice q 0 (0 + Gen.vmdkMinSparseHeader) := by
    simp only [slice, sliceOf, List.drop_zero, List.take_take, Gen.vmdkMinSparseHeader]
    congr 1
  unfold parseSparseHeader
  rw [this]

theorem lemma_post_callbacks_hdr (rest : List String) :
    runCallbacks (vPost foot n hd dd dl fo fd fin dt vt) ("header" :: rest) =
      runCallbacks (vPost foot n hd dd dl fo fd fin dt vt) rest := by
  have hrc : regionComplete (vPost foot n hd dd dl fo fd fin dt vt) "header" =
      (vPost foot n hd dd dl fo fd fin dt vt, none) := by
    simp [regionComplete, vPost]
  simp only [runCallbacks, hrc]

/-- **the `eat_chunk` that completes the header**.  Descriptor at sector 1: the footer region is added
    if announced, the descriptor region is relocated to offset 512, and both are presented with the
    current chunk.  Descriptor elsewhere: `post_process` raises after the (never fed) footer region
    was added. -/
theorem lemma_transition_step (dt : Option Bytes) (hp64 : p.length < 64) (hq64 : 64 ≤ (p ++ c).length) (hinv : PlainInv (vDesc0R d0) p)
    (hpar : parseSparseHeader (p ++ c) 0 = .ok H) (hok : HdrOK H)
    (hfoot : foot = decide (H.gdOffset = Gen.vmdkGdAtEnd))
    (hdl : dl = min (H.descNum * 512) Gen.vmdkDescMaxSize) :
    (H.descSec * 512 = Gen.vmdkDescOffset →
      ∃ fo' dt' vt',
        eatChunk (vPre p.length (sliceOf p 0 512) d0 dt formatNotFound) c =
          (vPost foot (p.length + c.length) (sliceOf (p ++ c) 0 512) (sliceOf (p ++ c) 512 dl) dl fo'
            (lastN 1536 c) false dt' vt', none) ∧
        DescSt (sliceOf (p ++ c) 512 dl) dl dt' vt') ∧
    (H.descSec * 512 ≠ Gen.vmdkDescOffset →
      ∃ d0', eatChunk (vPre p.length (sliceOf p 0 512) d0 dt formatNotFound) c =
          (vErr foot (p.length + c.length) (sliceOf (p ++ c) 0 512) d0' false dt, some .imageFormat) ∧
        (vDesc0R d0').complete = true) := by
  obtain ⟨d0', hstep, hinv', _⟩ := lemma_vmdk_step_desc0 c hinv
  have hhl : 64 ≤ (sliceOf (p ++ c) 0 512).length := by rw [lemma_sliceOf_length]; omega
  have hpar' : parseSparseHeader (sliceOf (p ++ c) 0 512) 0 = .ok H := by rw [lemma_vmdk_parse_sliceOf0]; exact hpar
  have hpp := lemma_transition_pp (n := p.length + c.length) (d0 := d0') (dt := dt) hpar' hhl hok hfoot
  refine ⟨fun hds => ?_, fun hds => ?_⟩
  · have h3 : postProcess (vPre (p.length + c.length) (sliceOf (p ++ c) 0 512) d0' dt formatNotFound) =
        (vPost foot (p.length + c.length) (sliceOf (p ++ c) 0 512) (sliceOf p 512 dl) dl 1536 [] false dt
          formatNotFound, none) := by
      rw [hpp, lemma_relocate_ok _ _ hds, lemma_sliceOf_nil p 512 dl (by omega), hdl]
    have hc0 : (vHdrR (sliceOf p 0 512)).complete = false :=
      lemma_vmdk_hdr_incomplete _ (by rw [lemma_sliceOf_length]; omega)
    rw [lemma_vmdk_eat_unfold_ok c
      ("header" :: (if decide (dl = (sliceOf (p ++ c) 512 dl).length) then ["descriptor"] else []))
      rfl (lemma_pre_capture c hp64 hstep) h3
      (lemma_transition_follow c hpar' hhl hok hds hfoot) (by
        generalize sliceOf (p ++ c) 512 dl = new
        generalize (lastN 1536 c) = fd'
        generalize p.length + c.length - fd'.length = fo'
        cases foot <;>
        simp only [vPost, vPre, Bool.false_eq_true, if_false, if_true, List.filter_cons, List.filter_nil,
          lemma_vmdk_hdr_complete _ hhl, hc0, lemma_vmdk_foot_complete, lemma_vmdk_desc_complete]
        all_goals
          generalize (vDesc0R d0).complete = b0
          rcases Bool.eq_false_or_eq_true (decide (dl = new.length)) with e2 | e2 <;>
          cases b0 <;> simp [e2, vHdrR, vDescR, vFootR, vDesc0R]),
      lemma_post_callbacks_hdr]
    by_cases h2 : dl = (sliceOf (p ++ c) 512 dl).length
    · rw [decide_eq_true h2, if_pos rfl, lemma_post_callbacks_desc]
      exact ⟨_, _, _, rfl, lemma_descSt_apply _ _ _ h2⟩
    · rw [decide_eq_false h2]
      refine ⟨_, dt, formatNotFound, rfl, ?_⟩
      unfold DescSt
      rw [if_neg h2]
  · rw [lemma_relocate_err _ _ hds] at hpp
    refine ⟨d0', lemma_vmdk_eat_unfold_err c rfl (lemma_pre_capture c hp64 hstep) hpp, ?_⟩
    by_cases hc : (vDesc0R d0').complete = true
    · exact hc
    · have hfull := hinv'.2 (by simpa using hc)
      exfalso
      apply hc
      have hl := congrArg List.length hfull
      rw [lemma_sliceOf_length] at hl
      simp only [vDesc0R] at hl
      have : 4 ≤ d0'.length := by omega
      simp [Region.complete, vDesc0R, this]

end Oslo.Insp
