/-
Helper lemmas for C11: the model of Python `int(str)`.
-/
import OsloModel.Net
namespace Oslo.Net

/-- the strict prefix grammar `[0-9]+` -/
def StrictDec (p : List Char) : Prop := p ≠ [] ∧ ∀ c ∈ p, isDigit c = true

/-- characters an `int()` literal can be made of -/
def IntChar (c : Char) : Prop :=
  isIntSpace c = true ∨ c = '+' ∨ c = '-' ∨ c = '_' ∨ (decDigit c).isSome = true

theorem lemma_isDigit_pyInt (c : Char) (h : isDigit c = true) :
    isIntSpace c = false ∧ c ≠ '-' ∧ c ≠ '+' ∧ c ≠ '_' ∧ decDigit c = some (digitVal c) := by
  have hb : 48 ≤ c.toNat ∧ c.toNat ≤ 57 := by simpa [isDigit] using h
  have ne : ∀ d : Char, d.toNat < 48 ∨ 57 < d.toNat → c ≠ d := fun d hd e => by subst e; omega
  refine ⟨?_, ne '-' (by decide), ne '+' (by decide), ne '_' (by decide), by simp [decDigit, h, digitVal]⟩
  have : c.toNat < 128 := by omega
  simp [isIntSpace, isCSpace, this]
  omega

theorem lemma_intBody_digits (cs : List Char) (h : ∀ c ∈ cs, isDigit c = true) (acc n : Nat) :
    intBody acc n cs = some (cs.foldl (fun a c => a * 10 + digitVal c) acc, n + cs.length, []) := by
  induction cs generalizing acc n with
  | nil => simp [intBody]
  | cons c cs ih =>
    have hc := lemma_isDigit_pyInt c (h c (by simp))
    unfold intBody
    rw [if_neg hc.2.2.2.1, hc.2.2.2.2]
    simp only
    rw [ih (fun x hx => h x (by simp [hx]))]
    simp; omega

theorem lemma_pyInt_strict (p : List Char) (h : StrictDec p)
    (hlen : Gen.maxStrDigits = 0 ∨ p.length ≤ Gen.maxStrDigits) : pyInt p = some (decVal p : Nat) := by
  obtain ⟨hne, hd⟩ := h
  match p, hne with
  | c :: cs, _ =>
    have hc := lemma_isDigit_pyInt c (hd c (by simp))
    have hb := lemma_intBody_digits cs (fun x hx => hd x (by simp [hx])) (digitVal c) 1
    unfold pyInt
    simp only [List.dropWhile, hc.1, intSign, if_neg hc.2.1, if_neg hc.2.2.1, hc.2.2.2.2, hb]
    have : ¬ (Gen.maxStrDigits > 0 ∧ 1 + cs.length > Gen.maxStrDigits) := by
      simp at hlen; omega
    simp [decVal, this]

theorem lemma_intBody_chars (cs : List Char) (acc n : Nat) : ∀ (v m : Nat) (rest : List Char),
    intBody acc n cs = some (v, m, rest) →
    ∃ body, cs = body ++ rest ∧ ∀ c ∈ body, IntChar c := by
  fun_induction intBody acc n cs with
  | case1 => intro v m rest h; simp at h; exact ⟨[], by simp [h]⟩
  | case2 => intro v m rest h; cases h
  | case3 acc n c cs z hz ih =>
    intro v m rest h
    obtain ⟨body, e, hb⟩ := ih v m rest h
    refine ⟨'_' :: c :: body, by simp [e], ?_⟩
    intro x hx
    simp at hx
    rcases hx with rfl | rfl | hx
    · simp [IntChar]
    · simp [IntChar, hz]
    · exact hb x hx
  | case4 => intro v m rest h; cases h
  | case5 acc n c cs hc z hz ih =>
    intro v m rest h
    obtain ⟨body, e, hb⟩ := ih v m rest h
    refine ⟨c :: body, by simp [e], ?_⟩
    intro x hx
    simp at hx
    rcases hx with rfl | hx
    · simp [IntChar, hz]
    · exact hb x hx
  | case6 acc n c cs hc hz =>
    intro v m rest h; simp at h; exact ⟨[], by simp [h]⟩

theorem lemma_dropWhile_split (p : Char → Bool) (l : List Char) :
    ∃ pre, l = pre ++ l.dropWhile p ∧ ∀ c ∈ pre, p c = true := by
  induction l with
  | nil => exact ⟨[], rfl, nofun⟩
  | cons x xs ih =>
    cases hx : p x
    · exact ⟨[], by rw [List.dropWhile_cons_of_neg (by simp [hx])]; rfl, nofun⟩
    · obtain ⟨pre, e, h⟩ := ih
      exact ⟨x :: pre, by rw [List.dropWhile_cons_of_pos hx, List.cons_append, ← e],
        List.forall_mem_cons.2 ⟨hx, h⟩⟩

theorem lemma_dropWhile_nil (p : Char → Bool) (l : List Char) (h : l.dropWhile p = []) :
    ∀ c ∈ l, p c = true := by
  obtain ⟨pre, e, hp⟩ := lemma_dropWhile_split p l
  rw [h, List.append_nil] at e
  exact e ▸ hp

theorem lemma_intSign_split (s1 : List Char) :
    ∃ sg, s1 = sg ++ (intSign s1).2 ∧ ∀ c ∈ sg, IntChar c := by
  unfold intSign
  match s1 with
  | [] => exact ⟨[], by simp⟩
  | c :: r =>
    by_cases h1 : c = '-'
    · subst h1; exact ⟨['-'], by simp [IntChar]⟩
    · by_cases h2 : c = '+'
      · subst h2; exact ⟨['+'], by simp [IntChar]⟩
      · exact ⟨[], by simp [h1, h2]⟩

theorem lemma_pyInt_chars (s : List Char) (n : Int) (h : pyInt s = some n) : ∀ c ∈ s, IntChar c := by
  obtain ⟨pre, e1, hpre⟩ := lemma_dropWhile_split isIntSpace s
  obtain ⟨sg, e2, hsg⟩ := lemma_intSign_split (s.dropWhile isIntSpace)
  simp only [pyInt] at h
  cases hs2 : (intSign (s.dropWhile isIntSpace)).2 with
  | nil => simp [hs2] at h
  | cons c cs =>
    simp only [hs2] at h
    cases hd : decDigit c with
    | none => simp [hd] at h
    | some d =>
      simp only [hd] at h
      cases hb : intBody d 1 cs with
      | none => simp [hb] at h
      | some r =>
        obtain ⟨v, m, rest⟩ := r
        simp only [hb] at h
        obtain ⟨body, e3, hbody⟩ := lemma_intBody_chars cs d 1 v m rest hb
        have hrest : ∀ x ∈ rest, isIntSpace x = true := by
          split at h
          · cases h
          · rename_i hr
            simp at hr
            intro x hx
            exact lemma_dropWhile_nil isIntSpace rest hr x hx
        intro x hx
        rw [e1, e2, hs2, e3] at hx
        simp at hx
        rcases hx with hx | hx | rfl | hx | hx
        · exact Or.inl (hpre x hx)
        · exact hsg x hx
        · simp [IntChar, hd]
        · exact hbody x hx
        · exact Or.inl (hrest x hx)

theorem lemma_slash_not_intChar : ¬ IntChar '/' := by unfold IntChar; decide
theorem lemma_nul_not_intChar : ¬ IntChar nul := by unfold IntChar; decide

end Oslo.Net
