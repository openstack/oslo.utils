/-
Helper lemmas for C11: `str.split` / `rsplit` model functions and joining.
-/
import OsloModel.Net
namespace Oslo.Net

/-- `sep.join(tokens)` -/
def joinSep (sep : Char) : List (List Char) → List Char
  | [] => []
  | [t] => t
  | t :: u :: ts => t ++ sep :: joinSep sep (u :: ts)

theorem lemma_splitOn_ne_nil (sep : Char) (s : List Char) : splitOn sep s ≠ [] := by
  induction s with
  | nil => simp [splitOn]
  | cons c cs ih =>
    unfold splitOn; split
    · simp
    · cases h : splitOn sep cs <;> simp [consHead]

theorem lemma_joinSep_consHead (sep c : Char) (ts : List (List Char)) (h : ts ≠ []) :
    joinSep sep (consHead c ts) = c :: joinSep sep ts := by
  match ts, h with
  | [t], _ => simp [consHead, joinSep]
  | t :: u :: r, _ => simp [consHead, joinSep]

theorem lemma_joinSep_cons {sep : Char} {t : List Char} {ts : List (List Char)} (h : ts ≠ []) :
    joinSep sep (t :: ts) = t ++ sep :: joinSep sep ts := by
  match ts, h with
  | u :: r, _ => simp [joinSep]

theorem lemma_join_splitOn (sep : Char) (s : List Char) : joinSep sep (splitOn sep s) = s := by
  induction s with
  | nil => simp [splitOn, joinSep]
  | cons c cs ih =>
    unfold splitOn; split
    · rename_i h; rw [lemma_joinSep_cons (lemma_splitOn_ne_nil sep cs), ih]; simp [h]
    · rw [lemma_joinSep_consHead _ _ _ (lemma_splitOn_ne_nil sep cs), ih]

theorem lemma_splitOn_of_notMem {sep : Char} {t : List Char} (h : sep ∉ t) : splitOn sep t = [t] := by
  induction t with
  | nil => simp [splitOn]
  | cons c cs ih =>
    simp at h
    unfold splitOn
    rw [if_neg (by intro e; exact h.1 e.symm), ih h.2]; simp [consHead]

theorem lemma_splitOn_append (sep : Char) (t rest : List Char) (h : sep ∉ t) :
    splitOn sep (t ++ sep :: rest) = t :: splitOn sep rest := by
  induction t with
  | nil => simp [splitOn]
  | cons c cs ih =>
    simp at h
    have hne : ¬ c = sep := by intro e; exact h.1 e.symm
    simp only [List.cons_append, splitOn, if_neg hne, ih h.2, consHead]

/-- no token of a split contains the separator -/
theorem lemma_splitOn_mem (sep : Char) (s t : List Char) (h : t ∈ splitOn sep s) : sep ∉ t := by
  induction s generalizing t with
  | nil => simp [splitOn] at h; simp [h]
  | cons c cs ih =>
    unfold splitOn at h; split at h
    · simp at h; rcases h with h | h
      · simp [h]
      · exact ih _ h
    · rename_i hc
      cases hs : splitOn sep cs with
      | nil => exact absurd hs (lemma_splitOn_ne_nil sep cs)
      | cons u r =>
        rw [hs] at h; simp [consHead] at h
        rcases h with h | h
        · subst h; simp; exact ⟨fun e => hc e.symm, ih u (by simp [hs])⟩
        · exact ih t (by simp [hs, h])

theorem lemma_splitOn_joinSep (sep : Char) (ts : List (List Char)) (hne : ts ≠ [])
    (h : ∀ t ∈ ts, sep ∉ t) : splitOn sep (joinSep sep ts) = ts := by
  induction ts with
  | nil => exact absurd rfl hne
  | cons t r ih =>
    cases r with
    | nil => simp [joinSep]; exact lemma_splitOn_of_notMem (h t (by simp))
    | cons u r' =>
      simp only [joinSep]
      rw [lemma_splitOn_append sep t _ (h t (by simp)), ih (by simp) (fun x hx => h x (by simp [hx]))]

theorem lemma_splitFirst_of_notMem {sep : Char} {s : List Char} (h : sep ∉ s) :
    splitFirst sep s = (s, none) := by
  induction s with
  | nil => simp [splitFirst]
  | cons c cs ih =>
    simp at h
    unfold splitFirst
    rw [if_neg (by intro e; exact h.1 e.symm), ih h.2]

theorem lemma_splitFirst_append (sep : Char) (a p : List Char) (h : sep ∉ a) :
    splitFirst sep (a ++ sep :: p) = (a, some p) := by
  induction a with
  | nil => simp [splitFirst]
  | cons c cs ih =>
    simp at h
    have hne : ¬ c = sep := by intro e; exact h.1 e.symm
    simp only [List.cons_append, splitFirst, if_neg hne, ih h.2]

theorem lemma_rsplitLast_of_notMem {sep : Char} {s : List Char} (h : sep ∉ s) :
    rsplitLast sep s = (s, none) := by
  induction s with
  | nil => simp [rsplitLast]
  | cons c cs ih =>
    simp at h
    unfold rsplitLast
    rw [ih h.2]; simp; intro e; exact absurd e.symm h.1

theorem lemma_rsplitLast_append (sep : Char) (a sc : List Char) (h : sep ∉ sc) :
    rsplitLast sep (a ++ sep :: sc) = (a, some sc) := by
  induction a with
  | nil => simp [rsplitLast, lemma_rsplitLast_of_notMem h]
  | cons c cs ih =>
    simp only [List.cons_append]
    unfold rsplitLast
    rw [ih]

theorem lemma_first_split {sep : Char} {s : List Char} (h : sep ∈ s) :
    ∃ a p, s = a ++ sep :: p ∧ sep ∉ a := by
  induction s with
  | nil => simp at h
  | cons c cs ih =>
    by_cases hc : c = sep
    · exact ⟨[], cs, by simp [hc], by simp⟩
    · simp at h
      rcases h with h | h
      · exact absurd h.symm hc
      · obtain ⟨a, p, e, ha⟩ := ih h
        exact ⟨c :: a, p, by simp [e], by simp [ha]; intro e; exact hc e.symm⟩

theorem lemma_split_unique {sep : Char} {a p a' p' : List Char} (ha : sep ∉ a) (ha' : sep ∉ a')
    (h : a ++ sep :: p = a' ++ sep :: p') : a = a' ∧ p = p' := by
  have h1 := lemma_splitFirst_append sep a p ha
  have h2 := lemma_splitFirst_append sep a' p' ha'
  rw [h, h2] at h1
  simp at h1
  exact ⟨h1.1.symm, h1.2.symm⟩

theorem lemma_joinSep_mem (sep : Char) (ts : List (List Char)) (c : Char) (h : c ∈ joinSep sep ts) :
    c = sep ∨ ∃ t ∈ ts, c ∈ t := by
  induction ts with
  | nil => simp [joinSep] at h
  | cons t r ih =>
    cases r with
    | nil => simp [joinSep] at h; exact Or.inr ⟨t, by simp, h⟩
    | cons u r' =>
      simp only [joinSep, List.mem_append, List.mem_cons] at h
      rcases h with h | h | h
      · exact Or.inr ⟨t, by simp, h⟩
      · exact Or.inl h
      · rcases ih h with h | ⟨x, hx, hc⟩
        · exact Or.inl h
        · exact Or.inr ⟨x, by simp [hx], hc⟩

end Oslo.Net
