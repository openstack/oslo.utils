/-
VHDX: the two table walks of the inspector (`_find_meta_region`, `_find_meta_entry`) as functions
of the bytes they read: what they find in a table that is wholly there, and that the entry walk
only ever looks at a frozen prefix of the metadata region.  Then the hypotheses of the
chunk-independence theorem as predicates on the stream, and their closure under prefixes.
-/
import OsloModel.Inspector
import OsloProofs.Lemmas.Capture
namespace Oslo.Insp

/-- `_find_meta_region` as a function of the header-region bytes -/
def findMetaRegionB (hd : Bytes) : Except Err (Option Nat) := do
  let d := slice hd 0 16
  if d.length ≠ 16 then throw .struct
  if leNat (slice d 0 4) ≠ 0x69676572 then throw .imageFormat
  let count := leNat (slice d 8 12)
  if count ≥ 2048 then throw .imageFormat
  vhdxScanRegions hd count 0

/-- `_find_meta_entry(VIRTUAL_DISK_SIZE)` (first half) as a function of the metadata bytes buffered -/
def findMetaEntryB (buf : Bytes) : Except Err (Option (Nat × Nat)) := do
  if buf.length < 32 then return none
  let d := slice buf 0 12
  if d.length ≠ 12 then throw .struct
  if slice d 0 8 ≠ ascii "metadata" then throw .imageFormat
  let count := leNat (slice d 10 12)
  if buf.length < 32 + count * 32 then return none
  if count ≥ 2048 then throw .imageFormat
  vhdxScanMeta buf count 0

/-- end of the metadata entry table, as announced by the 16-bit entry count at offset 10 -/
def entriesEnd (buf : Bytes) : Nat := 32 + leNat (slice (slice buf 0 12) 10 12) * 32

/-! ### the two entry scans

Both walk 32-byte entries for a GUID; on entries that are wholly there neither can raise. -/

/- Offsets into the tables are compared by the two lemmas below, which keep the products `k * 32` out of
   `omega`; the bounds are needed at every field. -/

theorem lemma_add_le {x k m n : Nat} (h : x + m ≤ n) (hk : k ≤ m) : x + k ≤ n :=
  Nat.le_trans (Nat.add_le_add_left hk x) h

theorem lemma_entry_le {B c len k : Nat} (h : B + c * 32 ≤ len) (hk : k < c) : B + k * 32 + 32 ≤ len := by
  refine Nat.le_trans ?_ h
  rw [Nat.add_assoc, ← Nat.succ_mul]
  exact Nat.add_le_add_left (Nat.mul_le_mul_right 32 hk) B

/-- a bounded search returns what it finds at the first index where its test holds -/
theorem lemma_scan_first {β : Type} (f : Nat → Nat → β) (c : Nat → Prop) [DecidablePred c] (v : Nat → β)
    (j : Nat) (hf : ∀ n i, i ≤ j → f (n + 1) i = if c i then v i else f n (i + 1))
    (hb : ∀ k, k < j → ¬ c k) (hj : c j) : ∀ n i, i ≤ j → j < i + n → f n i = v j := by
  intro n
  induction n with
  | zero => intro i h1 h2; exact absurd h2 (Nat.not_lt.2 h1)
  | succ n ih =>
    intro i h1 h2
    rw [hf n i h1]
    by_cases hij : i = j
    · rw [hij, if_pos hj]
    · have hlt := Nat.lt_of_le_of_ne h1 hij
      rw [if_neg (hb i hlt)]
      exact ih (i + 1) hlt (by omega)

theorem lemma_scanRegions_succ (data : Bytes) (n i : Nat) (h : 16 + i * 32 + 32 ≤ data.length) :
    vhdxScanRegions data (n + 1) i =
      if slice data (16 + i * 32) (16 + i * 32 + 16) = Gen.vhdxMetaRegionGuid
      then .ok (some (leNat (slice data (16 + i * 32 + 16) (16 + i * 32 + 24))))
      else vhdxScanRegions data n (i + 1) := by
  rw [vhdxScanRegions]
  simp only [lemma_slice_slice data _ (_ + 32) 0 16 (Nat.add_le_add_left (by decide) _),
    lemma_slice_slice data _ (_ + 32) 16 24 (Nat.add_le_add_left (by decide) _), Nat.add_zero,
    lemma_slice_length_add data _ 16 (lemma_add_le h (by decide)), List.length_drop, lemma_slice_length_add data _ 32 h,
    ne_eq, not_true_eq_false, if_false, beq_iff_eq]

theorem lemma_scanMeta_succ (buf : Bytes) (n i : Nat) (h : 32 + i * 32 + 32 ≤ buf.length) :
    vhdxScanMeta buf (n + 1) i =
      if slice buf (32 + i * 32) (32 + i * 32 + 16) = Gen.vhdxVdsGuid
      then .ok (some (leNat (slice buf (32 + i * 32 + 16) (32 + i * 32 + 20)),
                      leNat (slice buf (32 + i * 32 + 20) (32 + i * 32 + 24))))
      else vhdxScanMeta buf n (i + 1) := by
  rw [vhdxScanMeta]
  have h28 : 32 + i * 32 + 28 ≤ buf.length := lemma_add_le h (by decide)
  simp only [lemma_slice_slice buf (_ + 16) (_ + 28) 0 4 (Nat.add_le_add_left (by decide : 20 ≤ 28) _),
    lemma_slice_slice buf (_ + 16) (_ + 28) 4 8 (Nat.add_le_add_left (by decide : 24 ≤ 28) _),
    lemma_slice_length_add buf _ 16 (lemma_add_le h (by decide)), lemma_slice_length_add buf (_ + 16) 12 h28,
    ne_eq, not_true_eq_false, if_false, beq_iff_eq]

theorem lemma_scanMeta_prefix {a b : Bytes} (h : a <+: b) (c : Nat) (hc : 32 + c * 32 ≤ a.length) :
    ∀ n i, i + n ≤ c → vhdxScanMeta b n i = vhdxScanMeta a n i := by
  intro n
  induction n with
  | zero => intro i _; rfl
  | succ n ih =>
    intro i hi
    have ha := lemma_entry_le hc (show i < c by omega)
    rw [lemma_scanMeta_succ b n i (Nat.le_trans ha h.length_le), lemma_scanMeta_succ a n i ha, ih (i + 1) (by omega),
      lemma_slice_prefix h _ _ (lemma_add_le ha (by decide : 16 ≤ 32)),
      lemma_slice_prefix h _ _ (lemma_add_le ha (by decide : 20 ≤ 32)),
      lemma_slice_prefix h _ _ (lemma_add_le ha (by decide : 24 ≤ 32))]

theorem lemma_scanMeta_noerr (buf : Bytes) (c : Nat) (hc : 32 + c * 32 ≤ buf.length) (e : Err) :
    ∀ n i, i + n ≤ c → vhdxScanMeta buf n i ≠ .error e := by
  intro n
  induction n with
  | zero => intro i _ h; cases h
  | succ n ih =>
    intro i hi
    rw [lemma_scanMeta_succ buf n i (lemma_entry_le hc (show i < c by omega))]
    split
    · intro h; cases h
    · exact ih (i + 1) (by omega)

theorem lemma_findMetaRegionB_def (hd : Bytes) (h : 16 ≤ hd.length) : findMetaRegionB hd =
    if leNat (slice hd 0 4) ≠ 0x69676572 then .error .imageFormat else
    if 2048 ≤ leNat (slice hd 8 12) then .error .imageFormat else
    vhdxScanRegions hd (leNat (slice hd 8 12)) 0 := by
  unfold findMetaRegionB
  simp only [lemma_slice_length_add hd 0 16 h, lemma_slice_slice hd 0 16 0 4 (by decide),
    lemma_slice_slice hd 0 16 8 12 (by decide), ne_eq, not_true_eq_false, if_false]
  rfl

theorem lemma_findMetaEntryB_def (buf : Bytes) : findMetaEntryB buf =
    if buf.length < 32 then .ok none else
    if slice buf 0 8 ≠ ascii "metadata" then .error .imageFormat else
    if buf.length < entriesEnd buf then .ok none else
    if 2048 ≤ leNat (slice buf 10 12) then .error .imageFormat else
    vhdxScanMeta buf (leNat (slice buf 10 12)) 0 := by
  unfold findMetaEntryB entriesEnd
  by_cases h : buf.length < 32
  · simp only [if_pos h]; rfl
  · simp only [if_neg h, lemma_slice_length_add buf 0 12 (Nat.le_trans (by decide) (Nat.le_of_not_lt h)),
      lemma_slice_slice buf 0 12 0 8 (by decide), lemma_slice_slice buf 0 12 10 12 (by decide),
      ne_eq, not_true_eq_false, if_false]
    rfl

theorem lemma_entriesEnd (buf : Bytes) : entriesEnd buf = 32 + leNat (slice buf 10 12) * 32 := by
  rw [entriesEnd, lemma_slice_slice buf 0 12 10 12 (by decide)]

theorem lemma_entriesEnd_prefix {a b : Bytes} (h : a <+: b) (hl : 12 ≤ a.length) :
    entriesEnd b = entriesEnd a := by
  unfold entriesEnd
  rw [lemma_slice_prefix h 0 12 hl]

theorem lemma_findMetaEntry_frozen {a b : Bytes} (h : a <+: b) (h32 : 32 ≤ a.length)
    (hes : entriesEnd a ≤ a.length) : findMetaEntryB b = findMetaEntryB a := by
  have hlb := h.length_le
  have hc : 32 + leNat (slice a 10 12) * 32 ≤ a.length := lemma_entriesEnd a ▸ hes
  rw [lemma_findMetaEntryB_def, lemma_findMetaEntryB_def, lemma_entriesEnd_prefix h (Nat.le_trans (by decide) h32),
    lemma_slice_prefix h 0 8 (Nat.le_trans (by decide) h32), lemma_slice_prefix h 10 12 (Nat.le_trans (by decide) h32),
    lemma_scanMeta_prefix h _ hc _ 0 (Nat.le_of_eq (Nat.zero_add _)),
    if_neg (Nat.not_lt.2 (Nat.le_trans h32 hlb)), if_neg (Nat.not_lt.2 h32),
    if_neg (Nat.not_lt.2 (Nat.le_trans hes hlb)), if_neg (Nat.not_lt.2 hes)]

theorem lemma_findMetaEntry_some (buf : Bytes) (x : Nat × Nat) (h : findMetaEntryB buf = .ok (some x)) :
    32 ≤ buf.length ∧ entriesEnd buf ≤ buf.length := by
  rw [lemma_findMetaEntryB_def] at h
  by_cases h1 : buf.length < 32
  · rw [if_pos h1] at h; cases h
  · by_cases h2 : buf.length < entriesEnd buf
    · rw [if_neg h1, if_pos h2] at h
      split at h <;> cases h
    · exact ⟨Nat.le_of_not_lt h1, Nat.le_of_not_lt h2⟩

theorem lemma_findMetaEntry_noerr (buf : Bytes) (hlen : buf.length ≤ 65536)
    (hsig : 32 ≤ buf.length → buf.take 8 = ascii "metadata") : ∀ e, findMetaEntryB buf ≠ .error e := by
  intro e
  rw [lemma_findMetaEntryB_def]
  by_cases h1 : buf.length < 32
  · rw [if_pos h1]; intro h; cases h
  · rw [if_neg h1, if_neg (fun hne => hne (hsig (Nat.le_of_not_lt h1)))]
    by_cases h2 : buf.length < entriesEnd buf
    · rw [if_pos h2]; intro h; cases h
    · have hc : 32 + leNat (slice buf 10 12) * 32 ≤ buf.length := lemma_entriesEnd buf ▸ Nat.le_of_not_lt h2
      -- 2048 entries would end beyond 64 KiB
      rw [if_neg h2, if_neg (by omega)]
      exact lemma_scanMeta_noerr buf _ hc e _ 0 (Nat.le_of_eq (Nat.zero_add _))

/-- a table with signature `regi` and `rc` entries, the metadata GUID first in entry `j` -/
theorem lemma_findMetaRegion_found (hd : Bytes) (rc j mo : Nat) (hlen : 16 + rc * 32 ≤ hd.length)
    (hsig : leNat (slice hd 0 4) = 0x69676572) (hc : leNat (slice hd 8 12) = rc) (hrc : rc < 2048) (hj : j < rc)
    (hb : ∀ k, k < j → slice hd (16 + k * 32) (16 + k * 32 + 16) ≠ Gen.vhdxMetaRegionGuid)
    (hg : slice hd (16 + j * 32) (16 + j * 32 + 16) = Gen.vhdxMetaRegionGuid)
    (ho : leNat (slice hd (16 + j * 32 + 16) (16 + j * 32 + 24)) = mo) :
    findMetaRegionB hd = .ok (some mo) := by
  rw [lemma_findMetaRegionB_def hd (Nat.le_trans (Nat.le_add_right _ _) hlen), hsig, hc, if_neg (fun h => h rfl),
    if_neg (Nat.not_le.2 hrc)]
  exact ho ▸ lemma_scan_first (vhdxScanRegions hd) _ _ j
    (fun n k hk => lemma_scanRegions_succ hd n k (lemma_entry_le hlen (Nat.lt_of_le_of_lt hk hj)))
    hb hg rc 0 (Nat.zero_le _) (by rwa [Nat.zero_add])

/-- a table with signature `metadata` and `mc` entries, all buffered, the size GUID first in entry `i` -/
theorem lemma_findMetaEntry_found (buf : Bytes) (mc i ioff ilen : Nat) (hlen : 32 + mc * 32 ≤ buf.length)
    (hsig : slice buf 0 8 = ascii "metadata") (hc : leNat (slice buf 10 12) = mc) (hmc : mc < 2048) (hi : i < mc)
    (hb : ∀ k, k < i → slice buf (32 + k * 32) (32 + k * 32 + 16) ≠ Gen.vhdxVdsGuid)
    (hg : slice buf (32 + i * 32) (32 + i * 32 + 16) = Gen.vhdxVdsGuid)
    (ho : leNat (slice buf (32 + i * 32 + 16) (32 + i * 32 + 20)) = ioff)
    (hl : leNat (slice buf (32 + i * 32 + 20) (32 + i * 32 + 24)) = ilen) :
    findMetaEntryB buf = .ok (some (ioff, ilen)) := by
  rw [lemma_findMetaEntryB_def, lemma_entriesEnd, hsig, hc,
    if_neg (Nat.not_lt.2 (Nat.le_trans (Nat.le_add_right _ _) hlen)), if_neg (fun h => h rfl),
    if_neg (Nat.not_lt.2 hlen), if_neg (Nat.not_le.2 hmc)]
  exact ho ▸ hl ▸ lemma_scan_first (vhdxScanMeta buf) _ _ i
    (fun n k hk => lemma_scanMeta_succ buf n k (lemma_entry_le hlen (Nat.lt_of_le_of_lt hk hi)))
    hb hg mc 0 (Nat.zero_le _) (by rwa [Nat.zero_add])

/-- the metadata-region offset named by the region table of a completely streamed header, if any -/
def vhdxMetaOff (s : Bytes) : Option Nat :=
  if s.length < 262144 then none else
  match findMetaRegionB (sliceOf s 196608 65536) with
  | .ok (some mo) => some mo
  | _ => none

/-- forward proviso (negation of known-finding class KF_D7): the metadata region starts at or after
    256 KiB, and the size item the entry walk finds starts at or after the end of the entry table -/
def vhdxForwardB (s : Bytes) : Bool :=
  match vhdxMetaOff s with
  | none => true
  | some mo =>
    decide (262144 ≤ mo) &&
    (match findMetaEntryB (sliceOf s mo 65536) with
     | .ok (some (ioff, _)) => decide (entriesEnd (sliceOf s mo 65536) ≤ ioff)
     | _ => true)

def VhdxForward (s : Bytes) : Prop := vhdxForwardB s = true

/-- negation of known-finding class KF_N4: if 32 bytes of the metadata region are in the stream,
    it starts with `metadata` -/
def vhdxMetaSigOKB (s : Bytes) : Bool :=
  match vhdxMetaOff s with
  | none => true
  | some mo => decide ((sliceOf s mo 65536).length < 32) || (sliceOf s mo 65536).take 8 == ascii "metadata"

def VhdxMetaSigOK (s : Bytes) : Prop := vhdxMetaSigOKB s = true

instance (s : Bytes) : Decidable (VhdxForward s) := by unfold VhdxForward; infer_instance
instance (s : Bytes) : Decidable (VhdxMetaSigOK s) := by unfold VhdxMetaSigOK; infer_instance

theorem lemma_metaOff_iff (s : Bytes) (mo : Nat) : vhdxMetaOff s = some mo ↔
    262144 ≤ s.length ∧ findMetaRegionB (sliceOf s 196608 65536) = .ok (some mo) := by
  unfold vhdxMetaOff
  by_cases hl : s.length < 262144
  · rw [if_pos hl]
    exact ⟨fun h => (nomatch h), fun h => absurd hl (Nat.not_lt.2 h.1)⟩
  · rw [if_neg hl]
    cases findMetaRegionB (sliceOf s 196608 65536) with
    | error e => exact ⟨fun h => (nomatch h), fun h => (nomatch h.2)⟩
    | ok o =>
      cases o with
      | none => exact ⟨fun h => (nomatch h), fun h => (nomatch h.2)⟩
      | some mo' => exact ⟨fun h => ⟨Nat.le_of_not_lt hl, congrArg _ h⟩, fun h => Except.ok.inj h.2⟩

theorem lemma_forward_iff (s : Bytes) : VhdxForward s ↔ ∀ mo, vhdxMetaOff s = some mo →
    262144 ≤ mo ∧ ∀ ioff ilen, findMetaEntryB (sliceOf s mo 65536) = .ok (some (ioff, ilen)) →
      entriesEnd (sliceOf s mo 65536) ≤ ioff := by
  unfold VhdxForward vhdxForwardB
  cases vhdxMetaOff s with
  | none => exact ⟨fun _ _ h => (nomatch h), fun _ => rfl⟩
  | some mo =>
    simp only [Option.some.injEq, forall_eq', Bool.and_eq_true, decide_eq_true_eq]
    refine and_congr_right fun _ => ?_
    cases findMetaEntryB (sliceOf s mo 65536) with
    | error e => exact ⟨fun _ _ _ h => (nomatch h), fun _ => rfl⟩
    | ok o =>
      cases o with
      | none => exact ⟨fun _ _ _ h => (nomatch h), fun _ => rfl⟩
      | some x =>
        obtain ⟨a, b⟩ := x
        exact ⟨fun h _ _ e => (Prod.mk.inj (Option.some.inj (Except.ok.inj e))).1 ▸ of_decide_eq_true h,
          fun h => decide_eq_true (h a b rfl)⟩

theorem lemma_sigOK_iff (s : Bytes) : VhdxMetaSigOK s ↔ ∀ mo, vhdxMetaOff s = some mo →
    32 ≤ (sliceOf s mo 65536).length → (sliceOf s mo 65536).take 8 = ascii "metadata" := by
  unfold VhdxMetaSigOK vhdxMetaSigOKB
  cases vhdxMetaOff s with
  | none => exact ⟨fun _ _ h => (nomatch h), fun _ => rfl⟩
  | some mo =>
    simp only [Option.some.injEq, forall_eq', Bool.or_eq_true, decide_eq_true_eq, beq_iff_eq]
    rw [← Nat.not_le]
    exact Decidable.imp_iff_not_or.symm

theorem lemma_header_frozen {q s : Bytes} (hq : q <+: s) (hl : 262144 ≤ q.length) :
    sliceOf s 196608 65536 = sliceOf q 196608 65536 :=
  lemma_sliceOf_within hq 196608 65536 hl

theorem lemma_metaOff_prefix {q s : Bytes} (hq : q <+: s) (mo : Nat) (h : vhdxMetaOff q = some mo) :
    vhdxMetaOff s = some mo := by
  obtain ⟨hl, hr⟩ := (lemma_metaOff_iff q mo).1 h
  exact (lemma_metaOff_iff s mo).2 ⟨Nat.le_trans hl hq.length_le, lemma_header_frozen hq hl ▸ hr⟩

theorem lemma_fwd_prefix (s q : Bytes) (mo : Nat) (hq : q <+: s) (hf : VhdxForward s)
    (ho : vhdxMetaOff q = some mo) :
    262144 ≤ mo ∧ ∀ ioff ilen, findMetaEntryB (sliceOf q mo 65536) = .ok (some (ioff, ilen)) →
      entriesEnd (sliceOf q mo 65536) ≤ ioff := by
  obtain ⟨h1, h2⟩ := (lemma_forward_iff s).1 hf mo (lemma_metaOff_prefix hq mo ho)
  refine ⟨h1, fun ioff ilen he => ?_⟩
  obtain ⟨a, b⟩ := lemma_findMetaEntry_some _ _ he
  have hp := lemma_sliceOf_mono hq mo 65536
  rw [← lemma_entriesEnd_prefix hp (Nat.le_trans (by decide) a)]
  exact h2 ioff ilen ((lemma_findMetaEntry_frozen hp a b).trans he)

theorem lemma_sig_prefix (s q : Bytes) (mo : Nat) (hq : q <+: s) (hs : VhdxMetaSigOK s)
    (ho : vhdxMetaOff q = some mo) (h32 : 32 ≤ (sliceOf q mo 65536).length) :
    (sliceOf q mo 65536).take 8 = ascii "metadata" := by
  have hp := lemma_sliceOf_mono hq mo 65536
  rw [← lemma_take_prefix hp 8 (Nat.le_trans (by decide) h32)]
  exact (lemma_sigOK_iff s).1 hs mo (lemma_metaOff_prefix hq mo ho) (Nat.le_trans h32 hp.length_le)

theorem lemma_entry_noerr (s q : Bytes) (mo : Nat) (hq : q <+: s) (hs : VhdxMetaSigOK s)
    (ho : vhdxMetaOff q = some mo) : ∀ e, findMetaEntryB (sliceOf q mo 65536) ≠ .error e :=
  lemma_findMetaEntry_noerr _ (List.length_take_le _ _) (lemma_sig_prefix s q mo hq hs ho)

/-- a size item found in a longer prefix but not in a shorter one lies, under the forward proviso,
    at or after the end of the shorter prefix -/
theorem lemma_item_forward (p c : Bytes) (mo ioff ilen : Nat)
    (h0 : findMetaEntryB (sliceOf p mo 65536) = .ok none)
    (h1 : findMetaEntryB (sliceOf (p ++ c) mo 65536) = .ok (some (ioff, ilen)))
    (hf : entriesEnd (sliceOf (p ++ c) mo 65536) ≤ ioff) : p.length ≤ mo + ioff := by
  apply Decidable.byContradiction
  intro hlt
  -- otherwise the whole entry table lies in the shorter prefix, where the walk found nothing
  obtain ⟨_, b⟩ := lemma_findMetaEntry_some _ _ h1
  have hp := lemma_sliceOf_prefix p c mo 65536
  have hA := lemma_sliceOf_length p mo 65536
  have hB : (sliceOf (p ++ c) mo 65536).length ≤ 65536 := List.length_take_le _ _
  have h32 : 32 ≤ entriesEnd (sliceOf (p ++ c) mo 65536) := Nat.le_add_right _ _
  have hP : entriesEnd (sliceOf (p ++ c) mo 65536) ≤ (sliceOf p mo 65536).length := by omega
  have hee := lemma_entriesEnd_prefix hp (Nat.le_trans (by decide) (Nat.le_trans h32 hP))
  rw [lemma_findMetaEntry_frozen hp (Nat.le_trans h32 hP) (hee ▸ hP), h0] at h1
  cases h1

theorem lemma_entry_mono (p c : Bytes) (mo : Nat) (x : Nat × Nat)
    (h : findMetaEntryB (sliceOf p mo 65536) = .ok (some x)) :
    findMetaEntryB (sliceOf (p ++ c) mo 65536) = .ok (some x) := by
  obtain ⟨a, b⟩ := lemma_findMetaEntry_some _ _ h
  rw [lemma_findMetaEntry_frozen (lemma_sliceOf_prefix p c mo 65536) a b]
  exact h

end Oslo.Insp
