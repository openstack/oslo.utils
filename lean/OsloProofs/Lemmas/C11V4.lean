/-
Helper lemmas for C11: canonical decimal octets and the dotted-quad parser.
-/
import OsloProofs.Lemmas.C11Split
namespace Oslo.Net

/-- the ASCII digit with value `k` -/
def dig (k : Nat) : Char := Char.ofNat (48 + k)

/-- canonical decimal text of an octet: no sign, no leading zero (`'%d' % n`) -/
def renderOctet (n : Nat) : List Char :=
  if n < 10 then [dig n]
  else if n < 100 then [dig (n / 10), dig (n % 10)]
  else [dig (n / 100), dig (n / 10 % 10), dig (n % 10)]

/-- `'%d.%d.%d.%d' % (a, b, c, d)` -/
def renderQuad (a b c d : Nat) : List Char :=
  renderOctet a ++ '.' :: (renderOctet b ++ '.' :: (renderOctet c ++ '.' :: renderOctet d))

theorem lemma_renderOctet_length (n : Nat) : 1 ≤ (renderOctet n).length ∧ (renderOctet n).length ≤ 3 := by
  unfold renderOctet; split
  · simp
  · split <;> simp

theorem lemma_dig_toNat : ∀ x, x < 10 → (dig x).toNat = 48 + x := by decide
theorem lemma_isDigit_dig (c : Char) (h : isDigit c = true) : ∃ x, x < 10 ∧ c = dig x := by
  simp only [isDigit, Bool.and_eq_true, decide_eq_true_eq] at h
  refine ⟨c.toNat - 48, by omega, ?_⟩
  unfold dig
  rw [show 48 + (c.toNat - 48) = c.toNat by omega]
  exact (Char.ofNat_toNat c).symm

theorem lemma_dig_spec (x : Nat) (h : x < 10) :
    isDigit (dig x) = true ∧ digitVal (dig x) = x ∧ (dig x = '0' ↔ x = 0) := by
  have ht := lemma_dig_toNat x h
  refine ⟨by simp only [isDigit, ht, Bool.and_eq_true, decide_eq_true_eq]; omega,
    by simp only [digitVal, ht]; omega, fun e => ?_, fun e => e ▸ rfl⟩
  have := congrArg Char.toNat e
  rw [ht, show ('0' : Char).toNat = 48 from rfl] at this
  omega

theorem lemma_foldl_dec_ge (l : List Char) (acc : Nat) :
    acc ≤ l.foldl (fun a c => a * 10 + digitVal c) acc := by
  induction l generalizing acc with
  | nil => simp
  | cons c cs ih => simp only [List.foldl]; exact Nat.le_trans (by omega) (ih _)

theorem lemma_div10 (n : Nat) : ∃ a z, z < 10 ∧ n = a * 10 + z :=
  ⟨n / 10, n % 10, Nat.mod_lt _ (by decide), (Nat.div_add_mod' n 10).symm⟩

theorem lemma_step10 (a z : Nat) (hz : z < 10) : (a * 10 + z) / 10 = a ∧ (a * 10 + z) % 10 = z := by
  rw [Nat.mul_comm, Nat.mul_add_div (by decide), Nat.mul_add_mod, Nat.div_eq_of_lt hz, Nat.mod_eq_of_lt hz]
  exact ⟨rfl, rfl⟩

theorem lemma_renderOctet_digits (x y z : Nat) (hy : y < 10) (hz : z < 10) :
    renderOctet ((x * 10 + y) * 10 + z) =
      if x = 0 then (if y = 0 then [dig z] else [dig y, dig z]) else [dig x, dig y, dig z] := by
  have h1 := lemma_step10 (x * 10 + y) z hz
  have h2 := lemma_step10 x y hy
  have h100 : ((x * 10 + y) * 10 + z) / 100 = x := by
    rw [show 100 = 10 * 10 from rfl, ← Nat.div_div_eq_div_mul, h1.1, h2.1]
  unfold renderOctet
  rw [h100, h1.1, h1.2, h2.2]
  by_cases hx : x = 0
  · subst hx
    simp only [Nat.zero_mul, Nat.zero_add, if_true]
    by_cases hy0 : y = 0
    · subst hy0; rw [Nat.zero_mul, Nat.zero_add, if_pos hz, if_pos rfl]
    · have : ¬ y * 10 + z < 10 ∧ y * 10 + z < 100 := by omega
      rw [if_neg this.1, if_pos this.2, if_neg hy0]
  · have : ¬ (x * 10 + y) * 10 + z < 10 ∧ ¬ (x * 10 + y) * 10 + z < 100 := by omega
    rw [if_neg this.1, if_neg this.2, if_neg hx]

theorem lemma_renderOctet (n : Nat) (hn : n < 256) :
    (∀ c ∈ renderOctet n, isDigit c = true) ∧ leadingZero (renderOctet n) = false ∧
      decVal (renderOctet n) = n := by
  obtain ⟨a, z, hz, rfl⟩ := lemma_div10 n
  obtain ⟨x, y, hy, rfl⟩ := lemma_div10 a
  have fx := lemma_dig_spec x (by omega)
  have fy := lemma_dig_spec y hy
  have fz := lemma_dig_spec z hz
  rw [lemma_renderOctet_digits x y z hy hz]
  by_cases hx : x = 0
  · subst hx
    by_cases hy0 : y = 0
    · subst hy0; simp [leadingZero, decVal, fz.1, fz.2.1]
    · simp [hy0, leadingZero, decVal, fy, fz.1, fz.2.1]
  · simp [hx, leadingZero, decVal, fx, fy.1, fy.2.1, fz.1, fz.2.1]

theorem lemma_octetTok_render (n : Nat) (hn : n < 256) : octetTok (renderOctet n) = true := by
  obtain ⟨hd, hz, hv⟩ := lemma_renderOctet n hn
  have hne := List.isEmpty_eq_false_iff.2 (List.ne_nil_of_length_pos (lemma_renderOctet_length n).1)
  simp only [octetTok, hne, hz, hv, List.all_eq_true.2 hd, Bool.not_false, Bool.and_self, Bool.true_and,
    decide_eq_true_eq]
  omega

/-- a text of digits without leading zero and of value at most 255 is the canonical text of its value:
    one, two or three digits (a fourth would make the value at least 1000) -/
theorem lemma_octetTok_inv {t : List Char} (h : octetTok t = true) :
    ∃ n, n < 256 ∧ t = renderOctet n := by
  simp only [octetTok, Bool.and_eq_true, Bool.not_eq_true', decide_eq_true_eq, List.all_eq_true] at h
  obtain ⟨⟨⟨hne, hall⟩, hlz⟩, hval⟩ := h
  refine ⟨decVal t, by omega, ?_⟩
  have dg : ∀ c ∈ t, ∃ x, x < 10 ∧ c = dig x := fun c hc => lemma_isDigit_dig c (hall c hc)
  -- the first digit of two or more is not 0
  have lz : ∀ x b r, x < 10 → leadingZero (dig x :: b :: r) = false → x ≠ 0 := by
    intro x b r hx h e
    rw [leadingZero, (lemma_dig_spec x hx).2.2.2 e] at h
    cases h
  match t, hne, hlz, hval, dg with
  | [a], _, _, _, dg =>
    obtain ⟨x, hx, rfl⟩ := dg a (by simp)
    show _ = renderOctet ((0 * 10 + 0) * 10 + digitVal (dig x))
    rw [(lemma_dig_spec x hx).2.1, lemma_renderOctet_digits 0 0 x (by decide) hx, if_pos rfl, if_pos rfl]
  | [a, b], _, hlz, _, dg =>
    obtain ⟨x, hx, rfl⟩ := dg a (by simp)
    obtain ⟨y, hy, rfl⟩ := dg b (by simp)
    show _ = renderOctet ((0 * 10 + digitVal (dig x)) * 10 + digitVal (dig y))
    rw [(lemma_dig_spec x hx).2.1, (lemma_dig_spec y hy).2.1, lemma_renderOctet_digits 0 x y hx hy,
      if_pos rfl, if_neg (lz x _ _ hx hlz)]
  | [a, b, c], _, hlz, _, dg =>
    obtain ⟨x, hx, rfl⟩ := dg a (by simp)
    obtain ⟨y, hy, rfl⟩ := dg b (by simp)
    obtain ⟨z, hz, rfl⟩ := dg c (by simp)
    show _ = renderOctet (((0 * 10 + digitVal (dig x)) * 10 + digitVal (dig y)) * 10 + digitVal (dig z))
    rw [(lemma_dig_spec x hx).2.1, (lemma_dig_spec y hy).2.1, (lemma_dig_spec z hz).2.1, Nat.zero_mul,
      Nat.zero_add, lemma_renderOctet_digits x y z hy hz, if_neg (lz x _ _ hx hlz)]
  | a :: b :: c :: d :: rest, _, hlz, hval, dg =>
    exfalso
    obtain ⟨x, hx, rfl⟩ := dg a (by simp)
    have x0 := lz x _ _ hx hlz
    have := lemma_foldl_dec_ge rest ((((0 * 10 + x) * 10 + digitVal b) * 10 + digitVal c) * 10 + digitVal d)
    simp only [decVal, List.foldl, (lemma_dig_spec x hx).2.1] at hval
    omega

/-- a part is accepted by `inet_pton4` exactly when it is the canonical text of an octet -/
theorem lemma_octetTok_iff (t : List Char) : octetTok t = true ↔ ∃ n, n < 256 ∧ t = renderOctet n :=
  ⟨lemma_octetTok_inv, fun ⟨n, hn, e⟩ => e ▸ lemma_octetTok_render n hn⟩

theorem lemma_render_notin {n : Nat} (hn : n < 256) {x : Char} (hx : isDigit x = false) :
    x ∉ renderOctet n := by
  intro h; rw [(lemma_renderOctet n hn).1 x h] at hx; cases hx

theorem lemma_renderQuad_split {a b c d : Nat} (ha : a < 256) (hb : b < 256) (hc : c < 256) (hd : d < 256) :
    splitOn '.' (renderQuad a b c d) = [renderOctet a, renderOctet b, renderOctet c, renderOctet d] := by
  have h := lemma_splitOn_joinSep '.' [renderOctet a, renderOctet b, renderOctet c, renderOctet d] (by simp)
    (by
      intro t ht
      simp at ht
      rcases ht with rfl | rfl | rfl | rfl <;> exact lemma_render_notin ‹_› (x := '.') (by decide))
  simpa [joinSep, renderQuad] using h

theorem lemma_renderQuad_notin {a b c d : Nat} (ha : a < 256) (hb : b < 256) (hc : c < 256) (hd : d < 256)
    (x : Char) (hx : isDigit x = false) (hdot : x ≠ '.') : x ∉ renderQuad a b c d := by
  simp [renderQuad, hdot, lemma_render_notin ha hx, lemma_render_notin hb hx,
    lemma_render_notin hc hx, lemma_render_notin hd hx]

theorem lemma_renderQuad_isEmpty (a b c d : Nat) : (renderQuad a b c d).isEmpty = false := by
  simp [renderQuad]

theorem lemma_pton4_some {s : List Char} {q : List Nat} (hq : pton4 s = some q) :
    ∃ a b c d, a < 256 ∧ b < 256 ∧ c < 256 ∧ d < 256 ∧ s = renderQuad a b c d ∧ q = [a, b, c, d] := by
  unfold pton4 at hq
  simp only at hq
  split at hq
  · rename_i hlen
    obtain ⟨hl, hall⟩ := hlen
    have hj := lemma_join_splitOn '.' s
    match hs : splitOn '.' s, hl with
    | [t1, t2, t3, t4], _ =>
      rw [hs] at hall hj hq
      simp at hall
      obtain ⟨a, ha, rfl⟩ := lemma_octetTok_inv hall.1
      obtain ⟨b, hb, rfl⟩ := lemma_octetTok_inv hall.2.1
      obtain ⟨c, hc, rfl⟩ := lemma_octetTok_inv hall.2.2.1
      obtain ⟨d, hd, rfl⟩ := lemma_octetTok_inv hall.2.2.2
      refine ⟨a, b, c, d, ha, hb, hc, hd, by simpa [joinSep, renderQuad] using hj.symm, ?_⟩
      have dv := fun n hn => (lemma_renderOctet n hn).2.2
      simp [dv, ha, hb, hc, hd] at hq
      exact hq.symm
  · cases hq

theorem lemma_pton4_render {a b c d : Nat} (ha : a < 256) (hb : b < 256) (hc : c < 256) (hd : d < 256) :
    pton4 (renderQuad a b c d) = some [a, b, c, d] := by
  have dv := fun n hn => (lemma_renderOctet n hn).2.2
  simp [pton4, lemma_renderQuad_split ha hb hc hd, lemma_octetTok_render, dv, ha, hb, hc, hd]

theorem lemma_pton4_notin (s : List Char) (x : Char) (h : x ∈ s) (hx : isDigit x = false) (hdot : x ≠ '.') :
    pton4 s = none := by
  cases hq : pton4 s with
  | none => rfl
  | some q =>
    obtain ⟨a, b, c, d, ha, hb, hc, hd, rfl, _⟩ := lemma_pton4_some hq
    exact absurd h (lemma_renderQuad_notin ha hb hc hd x hx hdot)

theorem lemma_strToInt4_render {a b c d : Nat} (ha : a < 256) (hb : b < 256) (hc : c < 256) (hd : d < 256) :
    strToInt4 (renderQuad a b c d) = .ok (quadValue [a, b, c, d]) := by
  have hcolon := lemma_renderQuad_notin ha hb hc hd ':' (by decide) (by decide)
  have hnul := lemma_renderQuad_notin ha hb hc hd nul (by decide) (by decide)
  have lz := fun n hn => (lemma_renderOctet n hn).2.1
  simp [strToInt4, hcolon, hnul, lemma_renderQuad_split ha hb hc hd, lz, ha, hb, hc, hd,
    lemma_pton4_render ha hb hc hd]

theorem lemma_strToInt4_ok (s : List Char) (v : Nat) (h : strToInt4 s = .ok v) :
    ∃ q, pton4 s = some q ∧ v = quadValue q := by
  unfold strToInt4 at h
  split at h; · cases h
  split at h; · cases h
  split at h; · cases h
  split at h
  · cases h; exact ⟨_, ‹_›, rfl⟩
  · cases h

end Oslo.Net
