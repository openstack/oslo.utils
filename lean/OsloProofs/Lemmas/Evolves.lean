/-
How post-processing may change the region table: existing regions stay as they are or are
stopped at what they hold, some disappear, new ones are empty and get fresh identities.
-/
import OsloProofs.Lemmas.Bounded
namespace Oslo.Insp

/-- `x` is the region `y` unchanged, or (plain regions only) stopped at what it holds -/
def SameOrTrunc (y x : Region) : Prop :=
  x = y ∨ (y.isEnd = false ∧ x = { y with length := y.data.length })

theorem lemma_sot_refl (y : Region) : SameOrTrunc y y := Or.inl rfl

theorem lemma_sot_trans {a b c : Region} (h1 : SameOrTrunc a b) (h2 : SameOrTrunc b c) : SameOrTrunc a c := by
  rcases h1 with rfl | ⟨ha, rfl⟩
  · exact h2
  · rcases h2 with rfl | ⟨_, rfl⟩
    · exact Or.inr ⟨ha, rfl⟩
    · exact Or.inr ⟨ha, rfl⟩

theorem lemma_sot_rid {y x : Region} (h : SameOrTrunc y x) : x.rid = y.rid := by
  rcases h with rfl | ⟨_, rfl⟩ <;> rfl

theorem lemma_sot_data {y x : Region} (h : SameOrTrunc y x) : x.data = y.data := by
  rcases h with rfl | ⟨_, rfl⟩ <;> rfl

/-- all region identities are below the counter -/
def Bnd (s : Insp) : Prop := ∀ y ∈ s.regions, y.2.rid < s.nextRid

/-- every region of `s'` is an old one of `s`, the same or stopped, or a new, empty one -/
structure Evolves (s s' : Insp) : Prop where
  total : s'.total = s.total
  next : s.nextRid ≤ s'.nextRid
  regs : ∀ x ∈ s'.regions, (∃ y ∈ s.regions, SameOrTrunc y.2 x.2) ∨
    (s.nextRid ≤ x.2.rid ∧ x.2.rid < s'.nextRid ∧ x.2.data = [])

theorem Evolves.bnd {s s' : Insp} (h : Evolves s s') (hb : Bnd s) : Bnd s' := by
  intro x hx
  rcases h.regs x hx with ⟨y, hy, hs⟩ | ⟨_, hlt, _⟩
  · rw [lemma_sot_rid hs]
    exact Nat.lt_of_lt_of_le (hb y hy) h.next
  · exact hlt

theorem lemma_evolves_old {s s' : Insp} (ht : s'.total = s.total) (hn : s'.nextRid = s.nextRid)
    (h : ∀ x ∈ s'.regions, ∃ y ∈ s.regions, SameOrTrunc y.2 x.2) : Evolves s s' :=
  ⟨ht, Nat.le_of_eq hn.symm, fun x hx => .inl (h x hx)⟩

theorem lemma_evolves_trans {a b c : Insp} (h1 : Evolves a b) (h2 : Evolves b c) : Evolves a c := by
  refine ⟨h2.total.trans h1.total, Nat.le_trans h1.next h2.next, fun x hx => ?_⟩
  rcases h2.regs x hx with ⟨y, hy, hs⟩ | ⟨hge, hlt, hd⟩
  · rcases h1.regs y hy with ⟨z, hz, hs1⟩ | ⟨hge, hlt, hd⟩
    · exact .inl ⟨z, hz, lemma_sot_trans hs1 hs⟩
    · rw [← lemma_sot_rid hs] at hge hlt
      exact .inr ⟨hge, Nat.lt_of_lt_of_le hlt h2.next, (lemma_sot_data hs).trans hd⟩
  · exact .inr ⟨Nat.le_trans h1.next hge, hlt, hd⟩

theorem PP.evolves {f : Fmt} {s s' : Insp} (h : PP f s s') (hi : RInv f s.regions) : Evolves s s' := by
  induction h with
  | refl s => exact lemma_evolves_old rfl rfl (fun x hx => ⟨x, hx, lemma_sot_refl _⟩)
  | trans h1 _ ih1 ih2 => exact lemma_evolves_trans (ih1 hi) (ih2 (h1.rinv hi))
  | new hn =>
    rw [(lemma_newRegion_ok hn).2]
    refine ⟨rfl, Nat.le_succ _, fun x hx => ?_⟩
    rcases List.mem_append.mp hx with hx | hx
    · exact .inl ⟨x, hx, lemma_sot_refl _⟩
    · rw [List.mem_singleton.mp hx]
      exact .inr ⟨Nat.le_refl _, Nat.lt_succ_self _, rfl⟩
  | delete hd =>
    rw [lemma_deleteRegion_ok hd]
    exact lemma_evolves_old rfl rfl (fun x hx => ⟨x, (List.mem_filter.mp hx).1, lemma_sot_refl _⟩)
  | trunc s hn =>
    refine lemma_evolves_old rfl rfl (fun x hx => ?_)
    obtain ⟨y, hy, rfl⟩ := List.mem_map.mp hx
    refine ⟨y, hy, ?_⟩
    split
    · cases hE : y.2.isEnd
      · exact .inr ⟨hE, rfl⟩
      · next hyn => exact absurd (hyn ▸ ((hi.each y hy).2.2.2 hE).2) hn
    · exact lemma_sot_refl _
  | check s k => exact lemma_evolves_old rfl rfl (fun x hx => ⟨x, hx, lemma_sot_refl _⟩)

theorem lemma_postProcess_evolves (s : Insp) (h : SInv s) : Evolves s (postProcess s).1 :=
  (lemma_postProcess_pp s).evolves h

theorem lemma_init_bnd {f : Fmt} {s0 : Insp} (h0 : Insp.init f = some s0) : Bnd s0 := by
  rw [lemma_init_eq h0]
  exact fun p hp => by simpa using (lemma_mkRegions_fresh f.initRegions 0 p hp).1

theorem lemma_bnd_captureAll (s : Insp) (c : Bytes) (only : List String) (h : Bnd s) :
    Bnd (s.captureAll c only) := by
  intro p hp
  simp only [Insp.captureAll, List.mem_map] at hp
  obtain ⟨y, hy, rfl⟩ := hp
  show _ < s.nextRid
  split
  · rw [lemma_capture_rid]; exact h y hy
  · exact h y hy

theorem Acts.bnd {f : Fmt} {s s' : Insp} (h : Acts f s s') (hi : RInv f s.regions) (hb : Bnd s) :
    Bnd s' ∧ s.nextRid ≤ s'.nextRid := by
  induction h with
  | refl | aux => exact ⟨hb, Nat.le_refl _⟩
  | trans h1 _ ih1 ih2 =>
    obtain ⟨b1, n1⟩ := ih1 hi hb
    obtain ⟨b2, n2⟩ := ih2 (h1.rinv hi) b1
    exact ⟨b2, Nat.le_trans n1 n2⟩
  | pp h => exact ⟨(h.evolves hi).bnd hb, (h.evolves hi).next⟩
  | capture s c only => exact ⟨lemma_bnd_captureAll s c only hb, Nat.le_refl _⟩

end Oslo.Insp
