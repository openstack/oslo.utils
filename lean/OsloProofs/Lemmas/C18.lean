/-
Helper lemmas for C18 (spec matcher): how the hand parser of `OsloModel/Specs.lean` behaves on
specs of the documented shapes.  None of these is a property obligation; the property theorems
are in `OsloProofs/Props/C18.lean`.

The vocabulary of the property statements is defined here, next to the lemmas that use it
(listed at the head of `OsloProofs/Props/C18.lean`).
-/
import OsloModel.Specs
namespace Oslo.Specs

/-- a (possibly empty) run of pyparsing whitespace: space, tab, LF, CR -/
def White (ws : Str) : Prop := ∀ c ∈ ws, isWhite c = true

/-- text that may follow an atom: nothing, or something that begins with a `\s` character -/
def Ends (rest : Str) : Prop := ∀ c ∈ rest.head?, isSpace c = true

instance (ws : Str) : Decidable (White ws) := by unfold White; infer_instance
instance (rest : Str) : Decidable (Ends rest) := by unfold Ends; infer_instance

/-- an operand of the documented language: non-empty, no `\s` character, and not starting with
    one of the operator literals -/
structure IsAtom (x : Str) : Prop where
  ne : x ≠ []
  nospace : ∀ c ∈ x, isSpace c = false
  noop : startsWithOp x = false

/-- a non-empty text without `\s` characters: what the atom regex takes in one piece.  Operands and
    operator literals are both words. -/
def Word (x : Str) : Prop := x ≠ [] ∧ ∀ c ∈ x, isSpace c = false

instance (x : Str) : Decidable (Word x) := by unfold Word; infer_instance

theorem IsAtom.word {x : Str} (hx : IsAtom x) : Word x := ⟨hx.ne, hx.nospace⟩

/-! ### the generated tables: every operator literal is a word; `notLits` is the one-operand literals
followed by the three special forms -/

theorem lemma_white_space_tbl : ∀ n ∈ Gen.ppWhite, n ∈ Gen.reSpace := by decide +kernel

theorem lemma_notLits_eq : Gen.notLits = Gen.unaryLits ++ [Gen.allInLit, Gen.orLit, Gen.rangeLit] := by
  decide +kernel

theorem lemma_notLits_words : ∀ L ∈ Gen.notLits, Word L := by decide +kernel

theorem lemma_unary_not_special : ∀ op ∈ Gen.unaryLits, ∀ L ∈ [Gen.orLit, Gen.allInLit, Gen.rangeLit],
    stripPrefix L op = none := by decide +kernel

theorem lemma_special_distinct :
    stripPrefix Gen.orLit Gen.allInLit = none ∧ stripPrefix Gen.orLit Gen.rangeLit = none ∧
    stripPrefix Gen.allInLit Gen.rangeLit = none := by decide +kernel

theorem lemma_unary_in_notLits {L : Str} (h : L ∈ Gen.unaryLits) : L ∈ Gen.notLits :=
  lemma_notLits_eq ▸ List.mem_append_left _ h

theorem lemma_special_in_notLits {L : Str} (h : L ∈ [Gen.orLit, Gen.allInLit, Gen.rangeLit]) :
    L ∈ Gen.notLits := by
  rw [lemma_notLits_eq]
  simp only [List.mem_cons, List.not_mem_nil, or_false] at h
  rcases h with rfl | rfl | rfl <;> simp

theorem lemma_special_word {L : Str} (h : L ∈ [Gen.orLit, Gen.allInLit, Gen.rangeLit]) : Word L :=
  lemma_notLits_words L (lemma_special_in_notLits h)

theorem lemma_white_is_space {c : Char} (h : isWhite c = true) : isSpace c = true := by
  simp [isWhite, isSpace] at *
  exact lemma_white_space_tbl _ h

theorem lemma_nonspace_nonwhite {c : Char} (h : isSpace c = false) : isWhite c = false := by
  cases hw : isWhite c with
  | false => rfl
  | true => rw [lemma_white_is_space hw] at h; cases h

/-! ### whitespace in front is skipped; what follows a word does not matter if it is nothing or begins
with a `\s` character (`Ends`) -/

theorem lemma_skipWs_white (ws t : Str) (h : White ws) : skipWs (ws ++ t) = skipWs t :=
  List.dropWhile_append_of_pos h

theorem lemma_skipWs_cons {c : Char} (t : Str) (h : isWhite c = false) : skipWs (c :: t) = c :: t := by
  simp [skipWs, h]

theorem lemma_skipWs_allwhite (ws : Str) (h : White ws) : skipWs ws = [] := by
  simpa [skipWs] using lemma_skipWs_white ws [] h

theorem lemma_skipWs_word (ws x t : Str) (hws : White ws) (hx : Word x) :
    skipWs (ws ++ (x ++ t)) = x ++ t := by
  obtain ⟨c, x', rfl⟩ := List.exists_cons_of_ne_nil hx.1
  rw [lemma_skipWs_white _ _ hws, List.cons_append,
    lemma_skipWs_cons _ (lemma_nonspace_nonwhite (hx.2 c (by simp)))]

theorem lemma_ends_white_append (ws t : Str) (hws : White ws) (hne : ws ≠ []) : Ends (ws ++ t) := by
  obtain ⟨w, ws', rfl⟩ := List.exists_cons_of_ne_nil hne
  intro c hc
  simp at hc
  subst hc
  exact lemma_white_is_space (hws _ (by simp))

theorem lemma_ends_white (ws : Str) (hws : White ws) : Ends ws := by
  cases ws with
  | nil => intro c hc; simp at hc
  | cons w ws' => simpa using lemma_ends_white_append (w :: ws') [] hws (by simp)

theorem lemma_stripPrefix_self (L t : Str) : stripPrefix L (L ++ t) = some t := by
  induction L with
  | nil => simp [stripPrefix]
  | cons c L ih => simp [stripPrefix, ih]

theorem lemma_stripPrefix_ends (L a rest : Str) (hL : ∀ c ∈ L, isSpace c = false) (hr : Ends rest) :
    stripPrefix L (a ++ rest) = (stripPrefix L a).map (· ++ rest) := by
  induction L generalizing a with
  | nil => simp [stripPrefix]
  | cons c L ih =>
    cases a with
    | nil =>
      cases rest with
      | nil => simp [stripPrefix]
      | cons w b =>
        have : c ≠ w := by
          rintro rfl
          have := hr c (by simp)
          simp [hL c (by simp)] at this
        simp [stripPrefix, this]
    | cons d a =>
      simp only [List.cons_append, stripPrefix]
      split
      · exact ih a (fun c hc => hL c (List.mem_cons_of_mem _ hc))
      · rfl

theorem lemma_firstLit_ends (lits : List Str) (a rest : Str) (hl : ∀ L ∈ lits, ∀ c ∈ L, isSpace c = false)
    (hr : Ends rest) :
    firstLit lits (a ++ rest) = (firstLit lits a).map (fun p => (p.1, p.2 ++ rest)) := by
  induction lits with
  | nil => simp [firstLit]
  | cons L ls ih =>
    simp only [firstLit]
    rw [lemma_stripPrefix_ends L a rest (hl L (by simp)) hr]
    cases h : stripPrefix L a with
    | some r => simp
    | none => simpa using ih (fun L hL => hl L (by simp [hL]))

theorem lemma_firstLit_eq_none {lits : List Str} {s : Str} :
    firstLit lits s = none ↔ ∀ L ∈ lits, stripPrefix L s = none := by
  induction lits with
  | nil => simp [firstLit]
  | cons L ls ih =>
    simp only [firstLit, List.forall_mem_cons, ← ih]
    cases stripPrefix L s <;> simp

theorem lemma_firstLit_mem {lits : List Str} {s : Str} {l r : Str} (h : firstLit lits s = some (l, r)) :
    l ∈ lits := by
  induction lits with
  | nil => simp [firstLit] at h
  | cons L ls ih =>
    simp only [firstLit] at h
    cases hs : stripPrefix L s with
    | some r' => simp [hs] at h; simp [h.1]
    | none => simp [hs] at h; exact List.mem_cons_of_mem _ (ih h)

/-! ### `atom` and `literal` where a word stands between whitespace and `Ends` -/

theorem lemma_span_atom (x rest : Str) (hx : ∀ c ∈ x, isSpace c = false) (hr : Ends rest) :
    (x ++ rest).takeWhile (fun c => !isSpace c) = x ∧ (x ++ rest).dropWhile (fun c => !isSpace c) = rest := by
  induction x with
  | nil =>
    cases rest with
    | nil => simp
    | cons w b =>
      have : isSpace w = true := hr w (by simp)
      simp [this]
  | cons c x ih =>
    have hc : isSpace c = false := hx c (by simp)
    have := ih (fun d hd => hx d (by simp [hd]))
    simp [hc, this]

theorem lemma_atom_firstLit_none {x : Str} (hx : IsAtom x) : firstLit Gen.notLits x = none := by
  have h := hx.noop
  rw [startsWithOp, matchFirst, ← List.append_nil x, ← List.nil_append (x ++ []),
    lemma_skipWs_word [] x [] (fun _ h => nomatch h) hx.word, List.append_nil] at h
  simpa using h

theorem lemma_atom_append_firstLit_none {x rest : Str} (hx : IsAtom x) (hr : Ends rest) :
    firstLit Gen.notLits (x ++ rest) = none := by
  rw [lemma_firstLit_ends _ _ _ (fun L hL => (lemma_notLits_words L hL).2) hr, lemma_atom_firstLit_none hx]; rfl

theorem lemma_atom (ws x rest : Str) (hws : White ws) (hx : IsAtom x) (hr : Ends rest) :
    atom (ws ++ (x ++ rest)) = some (x, rest) := by
  have hspan := lemma_span_atom x rest hx.nospace hr
  have hne : x.isEmpty = false := by simpa using hx.ne
  simp [atom, startsWithOp, matchFirst, regexTok, lemma_skipWs_word ws x rest hws hx.word,
    lemma_atom_append_firstLit_none hx hr, hspan.1, hspan.2, hne]

theorem lemma_atom_white (ws : Str) (hws : White ws) : atom ws = none := by
  have h : firstLit Gen.notLits [] = none := by decide
  simp [atom, startsWithOp, matchFirst, regexTok, lemma_skipWs_allwhite ws hws, h]

theorem lemma_literal_hit (L ws t : Str) (hws : White ws) (hL : Word L) :
    literal L (ws ++ (L ++ t)) = some t := by
  rw [literal, lemma_skipWs_word _ _ _ hws hL, lemma_stripPrefix_self]

theorem lemma_literal_miss (L op ws rest : Str) (hws : White ws) (hop : Word op)
    (hL : ∀ c ∈ L, isSpace c = false) (hr : Ends rest) (h : stripPrefix L op = none) :
    literal L (ws ++ (op ++ rest)) = none := by
  rw [literal, lemma_skipWs_word _ _ _ hws hop, lemma_stripPrefix_ends _ _ _ hL hr, h]; rfl

theorem lemma_literal_white (L ws : Str) (hws : White ws) (hne : L ≠ []) : literal L ws = none := by
  obtain ⟨c, L', rfl⟩ := List.exists_cons_of_ne_nil hne
  simp [literal, lemma_skipWs_allwhite ws hws, stripPrefix]

theorem lemma_orLoop_miss (n : Nat) (s : Str) (h : literal Gen.orLit s = none) : orLoop n s = [] := by
  cases n <;> simp [orLoop, h]

theorem lemma_disjunction_miss (s : Str) (h : literal Gen.orLit s = none) : disjunction s = none := by
  simp [disjunction, lemma_orLoop_miss _ _ h]

theorem lemma_nary_miss (s : Str) (h : literal Gen.allInLit s = none) : nary s = none := by
  simp [nary, h]

theorem lemma_rangeOp_miss (s : Str) (h : literal Gen.rangeLit s = none) : rangeOp s = none := by
  simp [rangeOp, h]

theorem lemma_no_special (ws w rest : Str) (hws : White ws) (hw : Word w) (hr : Ends rest)
    (h : ∀ L ∈ [Gen.orLit, Gen.allInLit, Gen.rangeLit], stripPrefix L w = none) :
    disjunction (ws ++ (w ++ rest)) = none ∧ nary (ws ++ (w ++ rest)) = none ∧
    rangeOp (ws ++ (w ++ rest)) = none :=
  have hm : ∀ L ∈ [Gen.orLit, Gen.allInLit, Gen.rangeLit], literal L (ws ++ (w ++ rest)) = none :=
    fun L hL => lemma_literal_miss L w ws rest hws hw (lemma_special_word hL).2 hr (h L hL)
  ⟨lemma_disjunction_miss _ (hm _ (by simp)), lemma_nary_miss _ (hm _ (by simp)),
    lemma_rangeOp_miss _ (hm _ (by simp))⟩

theorem lemma_parse_plain (ws0 x rest : Str) (h0 : White ws0) (hx : IsAtom x) (hr : Ends rest) :
    parse (ws0 ++ (x ++ rest)) = some [x] := by
  have hu : matchFirst Gen.unaryLits (ws0 ++ (x ++ rest)) = none := by
    rw [matchFirst, lemma_skipWs_word _ _ _ h0 hx.word]
    exact lemma_firstLit_eq_none.mpr fun L hL =>
      lemma_firstLit_eq_none.mp (lemma_atom_append_firstLit_none hx hr) L (lemma_unary_in_notLits hL)
  obtain ⟨hd, hn, hg⟩ := lemma_no_special ws0 x rest h0 hx.word hr fun L hL =>
    lemma_firstLit_eq_none.mp (lemma_atom_firstLit_none hx) L (lemma_special_in_notLits hL)
  simp only [parse, hd, hn, hg, unary, hu, lemma_atom ws0 x rest h0 hx hr]

/-! ### specs with several operands: the loops get the length of the text as fuel, and every round
consumes an operand -/

/-- `pre₁ x₁ pre₂ x₂ … tail` -/
def atomsSpec : List (Str × Str) → Str → Str
  | [], e => e
  | (p, x) :: r, e => p ++ (x ++ atomsSpec r e)

/-- `pre₁ <or> mid₁ x₁ pre₂ <or> mid₂ x₂ … tail` -/
def orSpec : List (Str × Str × Str) → Str → Str
  | [], e => e
  | (p, m, x) :: r, e => p ++ (Gen.orLit ++ (m ++ (x ++ orSpec r e)))

/-- operands, each preceded by at least one whitespace character -/
def Operands (items : List (Str × Str)) : Prop :=
  ∀ i ∈ items, White i.1 ∧ i.1 ≠ [] ∧ IsAtom i.2

/-- further `<or>` alternatives: whitespace (at least one) before `<or>`, any whitespace after it -/
def Alternatives (alts : List (Str × Str × Str)) : Prop :=
  ∀ a ∈ alts, White a.1 ∧ a.1 ≠ [] ∧ White a.2.1 ∧ IsAtom a.2.2

theorem lemma_atomsSpec_ends (items : List (Str × Str)) (e : Str) (h : Operands items) (he : Ends e) :
    Ends (atomsSpec items e) := by
  cases items with
  | nil => exact he
  | cons i r =>
    have := h i (by simp)
    exact lemma_ends_white_append i.1 _ this.1 this.2.1

theorem lemma_orSpec_ends (alts : List (Str × Str × Str)) (e : Str) (h : Alternatives alts) (he : White e) :
    Ends (orSpec alts e) := by
  cases alts with
  | nil => exact lemma_ends_white e he
  | cons a r =>
    have := h a (by simp)
    exact lemma_ends_white_append a.1 _ this.1 this.2.1

theorem lemma_atom_operands (p x : Str) (r : List (Str × Str)) (e : Str) (h : Operands ((p, x) :: r))
    (he : Ends e) : atom (atomsSpec ((p, x) :: r) e) = some (x, atomsSpec r e) :=
  have hi := h (p, x) (by simp)
  lemma_atom p x _ hi.1 hi.2.2 (lemma_atomsSpec_ends r e (fun j hj => h j (List.mem_cons_of_mem _ hj)) he)

/-- Every round of a loop consumes at least an operand `x`, so fuel that covers the text covers
    what is left after the round as well. -/
theorem lemma_fuel {pre x t : Str} {fuel : Nat} (hx : x ≠ []) (hf : (pre ++ (x ++ t)).length ≤ fuel) :
    ∃ n, fuel = n + 1 ∧ t.length ≤ n := by
  have := List.length_pos_iff.mpr hx
  simp only [List.length_append] at hf
  exact ⟨fuel - 1, by omega, by omega⟩

theorem lemma_atomsLoop (items : List (Str × Str)) (e : Str) (h : Operands items) (he : Ends e)
    (hat : atom e = none) : ∀ fuel, (atomsSpec items e).length ≤ fuel →
    atomsLoop fuel (atomsSpec items e) = items.map (·.2) := by
  induction items with
  | nil => intro fuel _; cases fuel <;> simp [atomsLoop, atomsSpec, hat]
  | cons i r ih =>
    intro fuel hf
    obtain ⟨n, rfl, hn⟩ := lemma_fuel (h i (by simp)).2.2.ne hf
    simp only [atomsLoop, lemma_atom_operands i.1 i.2 r e h he, List.map_cons]
    rw [ih (fun j hj => h j (List.mem_cons_of_mem _ hj)) n hn]

theorem lemma_orLoop_step (fuel : Nat) (p m x t : Str) (hp : White p) (hm : White m) (hx : IsAtom x)
    (ht : Ends t) (hf : (p ++ (Gen.orLit ++ (m ++ (x ++ t)))).length ≤ fuel) :
    ∃ n, orLoop fuel (p ++ (Gen.orLit ++ (m ++ (x ++ t)))) = x :: orLoop n t ∧ t.length ≤ n := by
  obtain ⟨n, rfl, hn⟩ := lemma_fuel (pre := p ++ (Gen.orLit ++ m)) hx.ne
    (by simpa only [List.append_assoc] using hf)
  exact ⟨n, by simp only [orLoop, lemma_literal_hit Gen.orLit p _ hp (lemma_special_word (by simp)),
    lemma_atom m x t hm hx ht], hn⟩

theorem lemma_orLoop (alts : List (Str × Str × Str)) (e : Str) (h : Alternatives alts) (he : White e) :
    ∀ fuel, (orSpec alts e).length ≤ fuel → orLoop fuel (orSpec alts e) = alts.map (·.2.2) := by
  induction alts with
  | nil =>
    intro fuel _
    exact lemma_orLoop_miss _ _ (lemma_literal_white _ _ he (lemma_special_word (by simp)).1)
  | cons a r ih =>
    intro fuel hf
    have ha := h a (by simp)
    have hr : Alternatives r := fun j hj => h j (List.mem_cons_of_mem _ hj)
    obtain ⟨n, hstep, hn⟩ := lemma_orLoop_step fuel _ _ _ _ ha.1 ha.2.2.1 ha.2.2.2
      (lemma_orSpec_ends r e hr he) hf
    rw [orSpec, hstep, ih hr n hn, List.map_cons]

theorem lemma_parse_or (ws0 m x : Str) (alts : List (Str × Str × Str)) (e : Str)
    (h0 : White ws0) (hm : White m) (hx : IsAtom x) (halts : Alternatives alts) (he : White e) :
    parse (ws0 ++ (Gen.orLit ++ (m ++ (x ++ orSpec alts e)))) = some (orTok :: x :: alts.map (·.2.2)) := by
  obtain ⟨n, hstep, hn⟩ := lemma_orLoop_step _ ws0 m x _ h0 hm hx (lemma_orSpec_ends alts e halts he)
    (Nat.le_refl _)
  simp only [parse, disjunction, hstep, lemma_orLoop alts e halts he n hn]

theorem lemma_parse_all_in (ws0 : Str) (items : List (Str × Str)) (e : Str)
    (h0 : White ws0) (hit : Operands items) (hne : items ≠ []) (he : White e) :
    parse (ws0 ++ (Gen.allInLit ++ atomsSpec items e)) = some (Gen.allInLit :: items.map (·.2)) := by
  obtain ⟨i, r, rfl⟩ := List.exists_cons_of_ne_nil hne
  have hends := lemma_atomsSpec_ends _ e hit (lemma_ends_white e he)
  have hd := lemma_disjunction_miss _ (lemma_literal_miss Gen.orLit Gen.allInLit ws0 _ h0
    (lemma_special_word (by simp)) (lemma_special_word (by simp)).2 hends lemma_special_distinct.1)
  have hl := lemma_literal_hit Gen.allInLit ws0 (atomsSpec (i :: r) e) h0 (lemma_special_word (by simp))
  have hloop := lemma_atomsLoop (i :: r) e hit (lemma_ends_white e he)
    (lemma_atom_white e he) _ (Nat.le_refl _)
  simp only [parse, hd, nary, hl, hloop, List.map_cons]

theorem lemma_parse_range_in (ws0 : Str) (i1 i2 i3 i4 : Str × Str) (rest : Str) (h0 : White ws0)
    (hit : Operands [i1, i2, i3, i4]) (hr : Ends rest) :
    parse (ws0 ++ (Gen.rangeLit ++ atomsSpec [i1, i2, i3, i4] rest))
      = some [Gen.rangeLit, i1.2, i2.2, i3.2, i4.2] := by
  have hmiss : ∀ L ∈ [Gen.orLit, Gen.allInLit, Gen.rangeLit], stripPrefix L Gen.rangeLit = none →
      literal L (ws0 ++ (Gen.rangeLit ++ atomsSpec [i1, i2, i3, i4] rest)) = none :=
    fun L hL => lemma_literal_miss L Gen.rangeLit ws0 _ h0 (lemma_special_word (by simp))
      (lemma_special_word hL).2 (lemma_atomsSpec_ends _ rest hit hr)
  have hd := lemma_disjunction_miss _ (hmiss _ (by simp) lemma_special_distinct.2.1)
  have hn := lemma_nary_miss _ (hmiss _ (by simp) lemma_special_distinct.2.2)
  have hl := lemma_literal_hit Gen.rangeLit ws0 (atomsSpec [i1, i2, i3, i4] rest) h0
    (lemma_special_word (by simp))
  have h2 : Operands [i2, i3, i4] := fun j hj => hit j (List.mem_cons_of_mem _ hj)
  have h3 : Operands [i3, i4] := fun j hj => h2 j (List.mem_cons_of_mem _ hj)
  have h4 : Operands [i4] := fun j hj => h3 j (List.mem_cons_of_mem _ hj)
  simp only [parse, hd, hn, rangeOp, hl, lemma_atom_operands i1.1 i1.2 _ rest hit hr,
    lemma_atom_operands i2.1 i2.2 _ rest h2 hr, lemma_atom_operands i3.1 i3.2 _ rest h3 hr,
    lemma_atom_operands i4.1 i4.2 _ rest h4 hr]

/-! ### what each grammar rule can return, what each operator can raise -/

theorem lemma_keys_tbl : (∀ L ∈ Gen.unaryLits, (opTable.lookup L).isSome = true) ∧
    (opTable.lookup Gen.allInLit).isSome = true ∧ (opTable.lookup Gen.rangeLit).isSome = true ∧
    (opTable.lookup orTok).isSome = true := by decide +kernel

theorem lemma_disjunction_some {s : Str} {t : List Str} (h : disjunction s = some t) :
    ∃ a as, t = orTok :: a :: as := by
  revert h
  fun_cases disjunction s <;> intro h <;> cases h
  exact ⟨_, _, rfl⟩

theorem lemma_nary_some {s : Str} {t : List Str} (h : nary s = some t) :
    ∃ a as, t = Gen.allInLit :: a :: as := by
  revert h
  fun_cases nary s <;> intro h <;> cases h
  exact ⟨_, _, rfl⟩

theorem lemma_rangeOp_some {s : Str} {t : List Str} (h : rangeOp s = some t) :
    ∃ a as, t = Gen.rangeLit :: a :: as := by
  revert h
  fun_cases rangeOp s <;> intro h <;> cases h
  exact ⟨_, _, rfl⟩

theorem lemma_unary_some {s : Str} {t : List Str} (h : unary s = some t) :
    ∃ op a, t = [op, a] ∧ op ∈ Gen.unaryLits := by
  revert h
  fun_cases unary s <;> intro h <;> cases h
  exact ⟨_, _, rfl, lemma_firstLit_mem ‹_›⟩

theorem lemma_numCmp_err {o : NumOp} {x y : Str} {e : Err} (h : numCmp o x y = .err e) :
    e = .valueError := by
  revert h
  fun_cases numCmp o x y <;> intro h <;> cases h <;> rfl

theorem lemma_allIn_err {x : Str} {y : List Str} {e : Err} (h : allIn x y = .err e) : e = .typeError := by
  revert h
  fun_cases allIn x y <;> intro h <;> cases h <;> rfl

theorem lemma_rangeIn_err {x : Str} {y : List Str} {e : Err} (h : rangeIn x y = .err e) :
    e = .valueError ∨ e = .typeError := by
  revert h
  fun_cases rangeIn x y <;> intro h <;> cases h <;> simp

theorem lemma_applyOp_err {k : OpKind} {v : Str} {args : List Str} {e : Err}
    (h : applyOp k v args = .err e) : e = .valueError ∨ e = .typeError := by
  cases k <;> simp only [applyOp] at h
  · split at h
    · exact Or.inl (lemma_numCmp_err h)
    · cases h; exact Or.inr rfl
  · split at h <;> cases h; exact Or.inr rfl
  · exact Or.inr (lemma_allIn_err h)
  · split at h <;> cases h; exact Or.inr rfl
  · cases h
  · exact lemma_rangeIn_err h

/-! ### decimal text: `float()` reads it as its value, and it is an operand -/

/-- all characters are ASCII digits -/
def Digits (ds : Str) : Prop := ∀ c ∈ ds, isDigit c = true

instance (ds : Str) : Decidable (Digits ds) := by unfold Digits; infer_instance

/-- value of a digit string -/
def decVal (ds : Str) : Nat := natOfDigits (ds.map digitVal)

/-- text of a decimal number: optional `-`, digits, optionally `.` and more digits -/
def decText (neg : Bool) (ip fp : Str) : Str :=
  (if neg then ['-'] else []) ++ (ip ++ (if fp = [] then [] else '.' :: fp))

/-- the rational it denotes -/
def decValue (neg : Bool) (ip fp : Str) : Rat :=
  let q : Rat := (decVal ip : Rat) + (decVal fp : Rat) / (10 : Rat) ^ fp.length
  if neg then -q else q

theorem lemma_digitsTail (r t : Str) (hr : Digits r)
    (ht : ∀ c ∈ t.head?, isDigit c = false ∧ c ≠ '_') :
    ∀ fuel, r.length ≤ fuel → digitsTail fuel (r ++ t) = (r.map digitVal, t) := by
  induction r with
  | nil =>
    intro fuel _
    cases fuel with
    | zero => simp [digitsTail]
    | succ n =>
      cases t with
      | nil => simp [digitsTail]
      | cons c t =>
        have := ht c (by simp)
        simp [digitsTail, this.1, this.2]
  | cons c r ih =>
    intro fuel hf
    obtain ⟨n, rfl⟩ : ∃ n, fuel = n + 1 := ⟨fuel - 1, by simp at hf; omega⟩
    have hc : isDigit c = true := hr c (by simp)
    have := ih (fun d hd => hr d (by simp [hd])) n (by simp at hf; omega)
    simp [digitsTail, hc, this]

theorem lemma_digitPart (ds t : Str) (hne : ds ≠ []) (hd : Digits ds)
    (ht : ∀ c ∈ t.head?, isDigit c = false ∧ c ≠ '_') :
    digitPart (ds ++ t) = (some (ds.map digitVal), t) := by
  obtain ⟨c, r, rfl⟩ := List.exists_cons_of_ne_nil hne
  have hc : isDigit c = true := hd c (by simp)
  have := lemma_digitsTail r t (fun d hd' => hd d (by simp [hd'])) ht (r ++ t).length (by simp)
  simp only [List.length_append] at this
  simp [digitPart, hc, this]

theorem lemma_floatNumber_decimal (ip fp : Str) (hne : ip ≠ []) (hd : Digits ip) (hfd : Digits fp) :
    floatNumber (ip ++ (if fp = [] then [] else '.' :: fp))
      = some ((decVal ip : Rat) + (decVal fp : Rat) / (10 : Rat) ^ fp.length) := by
  by_cases hfp : fp = []
  · have := lemma_digitPart ip [] hne hd (by simp)
    simp only [List.append_nil] at this
    simp [hfp, floatNumber, this, withExponent, decVal, natOfDigits, Rat.div_def, Rat.add_zero]
  · have h1 := lemma_digitPart ip ('.' :: fp) hne hd (by simp; decide)
    have h2 := lemma_digitPart fp [] hfp hfd (by simp)
    simp only [List.append_nil] at h2
    simp [hfp, floatNumber, h1, h2, withExponent, decVal]

theorem lemma_digit_range {c : Char} (h : isDigit c = true) : 48 ≤ c.toNat ∧ c.toNat ≤ 57 := by
  simp only [isDigit, Bool.and_eq_true, decide_eq_true_eq] at h
  have h1 := h.1; have h2 := h.2
  rw [Char.le_def, UInt32.le_iff_toNat_le] at h1 h2
  exact ⟨h1, h2⟩

theorem lemma_decimal_tbl : ∀ n ∈ Gen.reSpace ++ Gen.pySpace, ¬ (48 ≤ n ∧ n ≤ 57) ∧ n ≠ 45 ∧ n ≠ 46 := by
  decide +kernel

theorem lemma_notLits_heads : ∀ L ∈ Gen.notLits, ∀ c ∈ L.head?, isDigit c = false ∧ c ≠ '-' := by
  decide +kernel

theorem lemma_decimal_char {c : Char} (h : isDigit c = true ∨ c = '-' ∨ c = '.') :
    isSpace c = false ∧ isPySpace c = false ∧ c.toNat < 128 := by
  have hn : (48 ≤ c.toNat ∧ c.toNat ≤ 57) ∨ c.toNat = 45 ∨ c.toNat = 46 := by
    rcases h with h | rfl | rfl
    · exact Or.inl (lemma_digit_range h)
    · exact Or.inr (Or.inl rfl)
    · exact Or.inr (Or.inr rfl)
  have hnot : ∀ l : List Nat, (∀ n ∈ l, n ∈ Gen.reSpace ++ Gen.pySpace) → l.contains c.toNat = false := by
    intro l hl
    rw [List.contains_eq_mem, decide_eq_false_iff_not]
    intro hm
    have := lemma_decimal_tbl _ (hl _ hm)
    omega
  exact ⟨hnot _ fun n hn => List.mem_append_left _ hn, hnot _ fun n hn => List.mem_append_right _ hn,
    by omega⟩

theorem lemma_digit_no_sign_inf_nan {c : Char} (h : isDigit c = true) :
    c ≠ '+' ∧ c ≠ '-' ∧ asciiLower c = c ∧ c ≠ 'i' ∧ c ≠ 'n' := by
  obtain ⟨h1, h2⟩ := lemma_digit_range h
  refine ⟨?_, ?_, ?_, ?_, ?_⟩
  · rintro rfl; revert h1; decide
  · rintro rfl; revert h1; decide
  · have : ¬ ('A' ≤ c ∧ c ≤ 'Z') := by
      rintro ⟨ha, -⟩
      rw [Char.le_def, UInt32.le_iff_toNat_le] at ha
      have : 65 ≤ c.toNat := ha
      omega
    simp [asciiLower, this]
  · rintro rfl; revert h2; decide
  · rintro rfl; revert h2; decide

theorem lemma_dropWhile_of_head (p : Char → Bool) (s : Str) (h : ∀ c ∈ s.head?, p c = false) :
    s.dropWhile p = s := by
  cases s with
  | nil => rfl
  | cons a m => simp [h a (by simp)]

theorem lemma_pyStrip (s : Str) (h : ∀ c ∈ s, isPySpace c = false) : pyStrip s = s := by
  unfold pyStrip
  rw [lemma_dropWhile_of_head _ s fun c hc => h c (List.mem_of_mem_head? hc),
    lemma_dropWhile_of_head _ s.reverse fun c hc => h c (List.mem_reverse.mp (List.mem_of_mem_head? hc)),
    List.reverse_reverse]

theorem lemma_decText_chars (neg : Bool) (ip fp : Str) (hd : Digits ip) (hfd : Digits fp) :
    ∀ c ∈ decText neg ip fp, isDigit c = true ∨ c = '-' ∨ c = '.' := by
  intro c hc
  simp only [decText, List.mem_append] at hc
  rcases hc with hc | hc | hc
  · cases neg <;> simp at hc; exact Or.inr (Or.inl hc)
  · exact Or.inl (hd c hc)
  · split at hc
    · cases hc
    · exact (List.mem_cons.mp hc).symm.imp (hfd c) Or.inr

theorem lemma_pyFloat_plain (neg : Bool) (d : Char) (m : Str) (q : Rat) (hd : isDigit d = true)
    (hall : ∀ c ∈ (if neg then ['-'] else []) ++ d :: m, isDigit c = true ∨ c = '-' ∨ c = '.')
    (hq : floatNumber (d :: m) = some q) :
    pyFloat ((if neg then ['-'] else []) ++ d :: m) = .num (.fin (if neg then -q else q)) := by
  obtain ⟨hplus, hminus, hlow, hi, hn⟩ := lemma_digit_no_sign_inf_nan hd
  have hany : ((if neg then ['-'] else []) ++ d :: m).any (fun c => decide (c.toNat ≥ 128)) = false := by
    rw [List.any_eq_false]
    intro c hc
    have := (lemma_decimal_char (hall c hc)).2.2
    simp; omega
  unfold pyFloat
  rw [lemma_pyStrip _ fun c hc => (lemma_decimal_char (hall c hc)).2.1]
  simp only [hany, Bool.false_eq_true, if_false]
  cases neg
  · simp only [Bool.false_eq_true, if_false, List.nil_append]
    split
    · rename_i r heq; simp at heq; exact absurd heq.1 hplus
    · rename_i r heq; simp at heq; exact absurd heq.1 hminus
    · simp [hq, hlow, hi, hn]
  · simp [hq, hlow, hi, hn]

theorem lemma_decimal_atom (neg : Bool) (ip fp : Str) (hne : ip ≠ []) (hd : Digits ip) (hfd : Digits fp) :
    IsAtom (decText neg ip fp) := by
  have hns : ∀ c ∈ decText neg ip fp, isSpace c = false :=
    fun c hc => (lemma_decimal_char (lemma_decText_chars neg ip fp hd hfd c hc)).1
  obtain ⟨d, m, rfl⟩ := List.exists_cons_of_ne_nil hne
  obtain ⟨c, t, htext, hc⟩ : ∃ c t, decText neg (d :: m) fp = c :: t ∧ (isDigit c = true ∨ c = '-') := by
    cases neg
    · exact ⟨d, _, rfl, Or.inl (hd d (by simp))⟩
    · exact ⟨'-', _, rfl, Or.inr rfl⟩
  rw [htext] at hns ⊢
  refine ⟨by simp, hns, ?_⟩
  rw [startsWithOp, matchFirst, lemma_skipWs_cons _ (lemma_nonspace_nonwhite (hns c (by simp))),
    lemma_firstLit_eq_none.mpr]; rfl
  intro L hL
  obtain ⟨l0, L', rfl⟩ := List.exists_cons_of_ne_nil (lemma_notLits_words L hL).1
  have hl0 := lemma_notLits_heads _ hL l0 (by simp)
  have : l0 ≠ c := by
    rintro rfl
    rcases hc with h | h
    · simp [hl0.1] at h
    · exact hl0.2 h
  simp [stripPrefix, this]

end Oslo.Specs
