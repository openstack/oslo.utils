/-
How to read a `do` block of the inspector model backwards (a bind that returned a value, a guard
that did not fire), and `formatMatch`, itself such a block, format by format.
-/
import OsloModel.Inspector
namespace Oslo.Insp

theorem lemma_bind_eq_ok {α β} {x : Except Err α} {k : α → Except Err β} {b : β} (h : (x >>= k) = .ok b) :
    ∃ a, x = .ok a ∧ k a = .ok b := by
  cases x with
  | error e => cases h
  | ok a => exact ⟨a, rfl, h⟩

theorem lemma_ite_eq_iff {α} {c : Prop} [Decidable c] {x y z : α} (hx : x ≠ z) :
    (if c then x else y) = z ↔ ¬ c ∧ y = z := by
  by_cases hc : c
  · simp [hc, hx]
  · simp [hc]

theorem lemma_ite_false {c : Prop} [Decidable c] {b : Bool} (h : (if c then false else b) = true) :
    ¬ c ∧ b = true :=
  (lemma_ite_eq_iff (by decide)).mp h

theorem lemma_guard_false (c : Prop) [Decidable c] (x : Except Err Bool) :
    (if c then .ok false else x) = .ok true ↔ ¬ c ∧ x = .ok true :=
  lemma_ite_eq_iff (fun h => by cases h)

theorem lemma_guard_throw (c : Prop) [Decidable c] (e : Err) (x : Except Err Bool) :
    (if c then .error e else x) = .ok true ↔ ¬ c ∧ x = .ok true :=
  lemma_ite_eq_iff (fun h => by cases h)

theorem lemma_startsWith_iff (b p : Bytes) : startsWith b p = true ↔ b.take p.length = p := beq_iff_eq

theorem lemma_formatMatch_vhd (s : Insp) (hf : s.fmt = .vhd) :
    formatMatch s = (do let h ← s.region "header"; return startsWith h.data (ascii "conectix")) := by
  unfold formatMatch
  rw [hf]

theorem lemma_formatMatch_vhdx (s : Insp) (hf : s.fmt = .vhdx) :
    formatMatch s = (do let h ← s.region "ident"; return startsWith h.data (ascii "vhdxfile")) := by
  unfold formatMatch
  rw [hf]

theorem lemma_formatMatch_luks (s : Insp) (hf : s.fmt = .luks) :
    formatMatch s = (do let h ← s.region "header"; return slice h.data 0 6 == [0x4c, 0x55, 0x4b, 0x53, 0xba, 0xbe]) := by
  unfold formatMatch
  rw [hf]

theorem lemma_formatMatch_qed (s : Insp) (hf : s.fmt = .qed) :
    formatMatch s = (do
      let h ← s.region "header"
      if !h.complete then return false
      return startsWith h.data [0x51, 0x45, 0x44, 0x00]) := by
  unfold formatMatch
  rw [hf]

theorem lemma_formatMatch_qcow2 (s : Insp) (hf : s.fmt = .qcow2) :
    formatMatch s = (do
      let h ← s.region "header"
      if !h.complete then return false
      return s.qcowInfo.isSome) := by
  unfold formatMatch
  rw [hf]

theorem lemma_formatMatch_vdi (s : Insp) (hf : s.fmt = .vdi) :
    formatMatch s = (do
      let h ← s.region "header"
      if !h.complete then return false
      let sig ← unpackLE 4 (slice h.data 0x40 0x44)
      return sig == 0xbeda107f) := by
  unfold formatMatch
  rw [hf]

theorem lemma_formatMatch_iso (s : Insp) (hf : s.fmt = .iso) :
    formatMatch s = (do
      if !s.complete then return false
      let h ← s.region "header"
      let sig := slice h.data 1 6
      return sig == ascii "CD001" || sig == ascii "NSR02" || sig == ascii "NSR03") := by
  unfold formatMatch
  rw [hf]

theorem lemma_ofExcept_pass (x : Except Err Bool) : CheckRes.ofExcept x = .pass ↔ x = .ok true := by
  rcases x with _ | _ | _ <;> simp [CheckRes.ofExcept]

end Oslo.Insp
