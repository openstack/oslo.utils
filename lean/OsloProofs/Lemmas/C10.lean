/-
Helper lemmas for C10 (parsers of OsloModel/Units.lean): spans; the number, prefix and unit
parsers of string_to_bytes in both directions; for the qemu size fields the character classes, the
"(N bytes)" group and the search for the magnitude.
-/
import OsloModel.Units
namespace Oslo.Units

deriving instance DecidableEq for Except

theorem lemma_takeP_dropP (p : Char → Bool) (s : List Char) : takeP p s ++ dropP p s = s := by
  induction s with
  | nil => simp [takeP, dropP]
  | cons c cs ih => by_cases h : p c <;> simp [takeP, dropP, h, ih]

theorem lemma_takeP_all (p : Char → Bool) (s : List Char) : ∀ c ∈ takeP p s, p c = true := by
  induction s with
  | nil => simp [takeP]
  | cons c cs ih =>
    by_cases h : p c
    · simp [takeP, h]; exact ih
    · simp [takeP, h]

theorem lemma_dropP_head (p : Char → Bool) (s : List Char) (c : Char) (r : List Char)
    (h : dropP p s = c :: r) : p c = false := by
  induction s with
  | nil => simp [dropP] at h
  | cons x xs ih =>
    by_cases hx : p x
    · simp [dropP, hx] at h; exact ih h
    · simp [dropP, hx] at h; obtain ⟨rfl, _⟩ := h; simpa using hx

/-- `rest` does not start with a character satisfying `p` -/
def NoHead (p : Char → Bool) (rest : List Char) : Prop := ∀ c r, rest = c :: r → p c = false

theorem lemma_span_append (p : Char → Bool) (a rest : List Char) (ha : ∀ c ∈ a, p c = true)
    (hr : NoHead p rest) : takeP p (a ++ rest) = a ∧ dropP p (a ++ rest) = rest := by
  induction a with
  | nil =>
    cases rest with
    | nil => simp [takeP, dropP]
    | cons c r => have := hr c r rfl; simp [takeP, dropP, this]
  | cons x xs ih =>
    have hx : p x = true := ha x (by simp)
    have := ih (fun c hc => ha c (by simp [hc]))
    simp [takeP, dropP, hx, this]

theorem lemma_noHead_cons (p : Char → Bool) (c : Char) (r : List Char) (h : p c = false) :
    NoHead p (c :: r) := by
  intro c' r' e
  cases e
  exact h

theorem lemma_noHead_append (p : Char → Bool) (a b : List Char) (ha : ∀ c ∈ a, p c = false)
    (hb : a = [] → NoHead p b) : NoHead p (a ++ b) := by
  cases a with
  | nil => exact hb rfl
  | cons x xs => exact lemma_noHead_cons p x _ (ha x (by simp))

theorem lemma_span_cons (p : Char → Bool) (a : List Char) (c : Char) (r : List Char)
    (ha : ∀ x ∈ a, p x = true) (hc : p c = false) :
    takeP p (a ++ c :: r) = a ∧ dropP p (a ++ c :: r) = c :: r :=
  lemma_span_append p a (c :: r) ha (lemma_noHead_cons p c r hc)

theorem lemma_dropP_noHead (p : Char → Bool) (s : List Char) : NoHead p (dropP p s) :=
  fun c r h => lemma_dropP_head p s c r h

/-- `.` followed by the fraction digits, when there are any -/
def dotFrac : Option (List Char) → List Char
  | none => []
  | some f => '.' :: f

def AllDigits (l : List Char) : Prop := ∀ c ∈ l, isDigit c = true

/-- well-formed `\d*\.?\d+` pieces: integer digits, optional fraction digits -/
def NumWF (ip : List Char) (fp : Option (List Char)) : Prop :=
  AllDigits ip ∧ match fp with
    | none => ip ≠ []
    | some f => f ≠ [] ∧ AllDigits f

instance (l : List Char) : Decidable (AllDigits l) := by unfold AllDigits; infer_instance
instance (ip : List Char) (fp : Option (List Char)) : Decidable (NumWF ip fp) := by
  unfold NumWF; cases fp <;> infer_instance

/-- the characters `\d*\.?\d+` can start with -/
def numStart (c : Char) : Bool := isDigit c || c == '.'

theorem lemma_numStart (c : Char) : numStart c = false ↔ isDigit c = false ∧ c ≠ '.' := by
  simp [numStart]

/-- `rest` cannot continue a number -/
def NumEnd (rest : List Char) : Prop := NoHead numStart rest

theorem lemma_numEnd_digit (rest : List Char) (h : NumEnd rest) : NoHead isDigit rest :=
  fun c r e => ((lemma_numStart c).mp (h c r e)).1

theorem lemma_digits_span (ip : List Char) (fp : Option (List Char)) (rest : List Char)
    (hip : AllDigits ip) (hrest : NumEnd rest) :
    takeP isDigit (ip ++ dotFrac fp ++ rest) = ip ∧
      dropP isDigit (ip ++ dotFrac fp ++ rest) = dotFrac fp ++ rest := by
  rw [List.append_assoc]
  apply lemma_span_append isDigit ip _ hip
  cases fp with
  | none => exact lemma_numEnd_digit rest hrest
  | some f => exact lemma_noHead_cons _ '.' _ (by decide)

theorem lemma_parseNumber_render (ip : List Char) (fp : Option (List Char)) (rest : List Char)
    (hwf : NumWF ip fp) (hrest : NumEnd rest) :
    parseNumber (ip ++ dotFrac fp ++ rest) = some (ip, fp, rest) := by
  obtain ⟨h1, h2⟩ := lemma_digits_span ip fp rest hwf.1 hrest
  rw [parseNumber, h1, h2]
  cases fp with
  | none =>
    have hne : ip ≠ [] := hwf.2
    cases rest with
    | nil => simp [dotFrac, parseNumberAux, hne]
    | cons c r =>
      have hc := ((lemma_numStart c).mp (hrest c r rfl)).2
      unfold parseNumberAux dotFrac
      split
      · next r2 heq => simp at heq; exact absurd heq.1 hc
      · simp [hne]
  | some f =>
    obtain ⟨hne, hf⟩ := hwf.2
    have h3 := lemma_span_append isDigit f rest hf (lemma_numEnd_digit rest hrest)
    simp [dotFrac, parseNumberAux, h3.1, h3.2, hne]

theorem lemma_parseNumber_inv (s d1 : List Char) (d2 : Option (List Char)) (r : List Char)
    (h : parseNumber s = some (d1, d2, r)) :
    s = d1 ++ dotFrac d2 ++ r ∧ NumWF d1 d2 := by
  unfold parseNumber at h
  have hs := lemma_takeP_dropP isDigit s
  have hd : AllDigits (takeP isDigit s) := lemma_takeP_all isDigit s
  generalize takeP isDigit s = a at *
  generalize dropP isDigit s = b at *
  unfold parseNumberAux at h
  split at h
  · next r2 =>
    split at h
    · next hne =>
      simp only [Option.some.injEq, Prod.mk.injEq] at h
      obtain ⟨rfl, rfl, rfl⟩ := h
      refine ⟨?_, hd, hne, lemma_takeP_all isDigit r2⟩
      have := lemma_takeP_dropP isDigit r2
      simp only [dotFrac, List.append_assoc, List.cons_append]
      rw [this, hs]
    · split at h
      · next hne =>
        simp only [Option.some.injEq, Prod.mk.injEq] at h
        obtain ⟨rfl, rfl, rfl⟩ := h
        exact ⟨by simp [dotFrac, hs], hd, hne⟩
      · simp at h
  · split at h
    · next hne =>
      simp only [Option.some.injEq, Prod.mk.injEq] at h
      obtain ⟨rfl, rfl, rfl⟩ := h
      exact ⟨by simp [dotFrac, hs], hd, hne⟩
    · simp at h

theorem lemma_parsePrefix_none (letters : List Char) (optI : Bool) (rest : List Char)
    (h : NoHead letters.contains rest) : parsePrefix letters optI rest = ([], rest) := by
  cases rest with
  | nil => rfl
  | cons c r => simp only [parsePrefix, h c r rfl, Bool.false_eq_true, ↓reduceIte]

theorem lemma_parsePrefix_one (letters : List Char) (optI : Bool) (c : Char) (rest : List Char)
    (hc : letters.contains c = true) (h : optI = false ∨ NoHead (· == 'i') rest) :
    parsePrefix letters optI (c :: rest) = ([c], rest) := by
  simp only [parsePrefix, hc, ↓reduceIte]
  split
  · next r' =>
    rcases h with h | h
    · simp_all
    · have := h 'i' r' rfl; simp at this
  · rfl

theorem lemma_parsePrefix_two (letters : List Char) (c : Char) (rest : List Char)
    (hc : letters.contains c = true) :
    parsePrefix letters true (c :: 'i' :: rest) = ([c, 'i'], rest) := by
  simp only [parsePrefix, hc, ↓reduceIte]

theorem lemma_parsePrefix_inv (letters : List Char) (optI : Bool) (r1 p r2 : List Char)
    (h : parsePrefix letters optI r1 = (p, r2)) :
    r1 = p ++ r2 ∧
      (p = [] ∨ ∃ c, letters.contains c = true ∧ (p = [c] ∨ (optI = true ∧ p = [c, 'i']))) := by
  obtain ⟨rfl, rfl⟩ : (parsePrefix letters optI r1).1 = p ∧ (parsePrefix letters optI r1).2 = r2 := by
    simp [h]
  fun_cases parsePrefix letters optI r1 <;> simp_all

/-- the three unit spellings -/
inductive UnitText | b | bit | B
  deriving DecidableEq, Repr

def UnitText.chars : UnitText → List Char
  | .b => ['b']
  | .bit => ['b', 'i', 't']
  | .B => ['B']

def UnitText.kind : UnitText → UnitKind
  | .b => .bit
  | .bit => .bit
  | .B => .byte

/-- with the strict end anchor (`\Z`, `nlOk = false`) each unit spelling, on its own, is read -/
theorem lemma_parseUnit_render (u : UnitText) : parseUnit false u.chars = some u.kind := by
  cases u <;> rfl

theorem lemma_parseUnit_inv (r : List Char) (k : UnitKind) (h : parseUnit false r = some k) :
    ∃ u, r = UnitText.chars u ∧ k = u.kind := by
  unfold parseUnit at h
  split at h
  · exact ⟨.b, rfl, by simp at h; subst h; rfl⟩
  · simp at h
  · exact ⟨.bit, rfl, by simp at h; subst h; rfl⟩
  · simp at h
  · exact ⟨.B, rfl, by simp at h; subst h; rfl⟩
  · simp at h
  · simp at h

/-- what the proofs use of a `\s` character -/
structure SpaceChar (c : Char) : Prop where
  digit : isDigit c = false
  dot : c ≠ '.'
  word : isWord c = false
  sign : c ≠ '+' ∧ c ≠ '-'

theorem SpaceChar.num {c : Char} (h : SpaceChar c) : numStart c = false :=
  (lemma_numStart c).mpr ⟨h.digit, h.dot⟩

open Oslo.Generated.C10 in
theorem lemma_space_cases (c : Char) (h : isSpace c = true) : SpaceChar c := by
  have hn : c.toNat ∈ reSpaceAscii := by simpa [isSpace] using h
  have hlt : c.toNat ≤ 32 := (by decide : ∀ n ∈ reSpaceAscii, n ≤ 32) _ hn
  refine ⟨?_, ?_, ?_, ⟨?_, ?_⟩⟩
  · simp [isDigit]; omega
  · rintro rfl; revert hlt; decide
  · have : c ≠ '_' := by rintro rfl; revert hlt; decide
    simp [isWord, isDigit, this]; omega
  · rintro rfl; revert hlt; decide
  · rintro rfl; revert hlt; decide

/-- what the proofs use of a `\w` character -/
structure WordChar (c : Char) : Prop where
  space : isSpace c = false
  dot : c ≠ '.'
  sign : c ≠ '+' ∧ c ≠ '-'

theorem lemma_word_cases (c : Char) (h : isWord c = true) : WordChar c := by
  refine ⟨?_, ?_, ⟨?_, ?_⟩⟩
  · cases hs : isSpace c with
    | false => rfl
    | true => have := (lemma_space_cases c hs).word; simp [this] at h
  · rintro rfl; revert h; decide
  · rintro rfl; revert h; decide
  · rintro rfl; revert h; decide

theorem lemma_digit_word (c : Char) (h : isDigit c = true) : isWord c = true := by
  simp [isWord, h]

theorem lemma_dropP_all (p : Char → Bool) (a b : List Char) (ha : ∀ c ∈ a, p c = true) :
    dropP p (a ++ b) = dropP p b := by
  induction a with
  | nil => rfl
  | cons x xs ih =>
    have hx : p x = true := ha x (by simp)
    simp only [List.cons_append, dropP, hx, if_true]
    exact ih (fun c hc => ha c (by simp [hc]))

theorem lemma_dropP_id (p : Char → Bool) (c : Char) (r : List Char) (h : p c = false) :
    dropP p (c :: r) = c :: r := by simp [dropP, h]

def AllSpace (l : List Char) : Prop := ∀ c ∈ l, isSpace c = true
def AllWord (l : List Char) : Prop := ∀ c ∈ l, isWord c = true

theorem lemma_space_all (ws : List Char) (h : AllSpace ws) (c : Char) (hc : c ∈ ws) : SpaceChar c :=
  lemma_space_cases c (h c hc)

theorem lemma_word_all (ws : List Char) (h : AllWord ws) (c : Char) (hc : c ∈ ws) : WordChar c :=
  lemma_word_cases c (h c hc)

/-- the five letters of `bytes`, in either case -/
def IsBytesWord (b y t e s : Char) : Prop :=
  (b = 'b' ∨ b = 'B') ∧ (y = 'y' ∨ y = 'Y') ∧ (t = 't' ∨ t = 'T') ∧ (e = 'e' ∨ e = 'E') ∧ (s = 's' ∨ s = 'S')

/-- the text of group 3 after its opening parenthesis: `ws3 N ws4 bytes ws5 ) tail` -/
def bytesTail (ws3 n ws4 : List Char) (b y t e s : Char) (ws5 tl : List Char) : List Char :=
  ws3 ++ (n ++ (ws4 ++ (b :: y :: t :: e :: s :: (ws5 ++ ')' :: tl))))

theorem lemma_stripBytesWord (b y t e s : Char) (r : List Char) (hb : IsBytesWord b y t e s) :
    stripBytesWord (b :: y :: t :: e :: s :: r) = some r := if_pos hb

theorem lemma_parseBytesInfo (ws0 ws3 n ws4 : List Char) (b y t e s : Char) (ws5 tl : List Char)
    (h0 : AllSpace ws0) (h3 : AllSpace ws3) (hn : AllDigits n) (hne : n ≠ [])
    (h4 : AllSpace ws4) (h4ne : ws4 ≠ []) (hb : IsBytesWord b y t e s) (h5 : AllSpace ws5) :
    parseBytesInfo (ws0 ++ '(' :: bytesTail ws3 n ws4 b y t e s ws5 tl) = some n := by
  have hnsp : ∀ c ∈ n, isSpace c = false := fun c hc =>
    (lemma_word_cases c (lemma_digit_word c (hn c hc))).space
  have hspd : ∀ c ∈ ws4, isDigit c = false := fun c hc => (lemma_space_all _ h4 c hc).digit
  have hbs : isSpace b = false := by rcases hb.1 with rfl | rfl <;> decide
  -- each run ends where the next piece starts
  simp only [parseBytesInfo, bytesTail,
    lemma_span_cons isSpace ws0 '(' _ h0 (by decide),
    lemma_span_append isSpace ws3 _ h3 (lemma_noHead_append _ n _ hnsp (fun h => absurd h hne)),
    lemma_span_append isDigit n _ hn (lemma_noHead_append _ ws4 _ hspd (fun h => absurd h h4ne)),
    lemma_span_cons isSpace ws4 b _ h4 hbs,
    lemma_stripBytesWord b y t e s _ hb, lemma_span_cons isSpace ws5 ')' _ h5 (by decide)]
  simp [hne, h4ne]

theorem lemma_parseMag_nonstart (c : Char) (r : List Char) (h1 : isDigit c = false) (h2 : c ≠ '.') :
    parseMag (c :: r) = none := by
  have e1 : takeP isDigit (c :: r) = [] := by simp [takeP, h1]
  have e2 : dropP isDigit (c :: r) = c :: r := by simp [dropP, h1]
  have e3 : parseSci [] (c :: r) = none := by
    unfold parseSci; split <;> simp
  have e4 : parseNumber (c :: r) = none := by
    unfold parseNumber; rw [e1, e2]; unfold parseNumberAux
    split
    · next r2 heq => simp at heq; exact absurd heq.1 h2
    · simp
  unfold parseMag
  rw [e1, e2, e3, e4]

theorem lemma_findMag_skip (pre X : List Char) (hpre : ∀ c ∈ pre, isDigit c = false ∧ c ≠ '.') :
    findMag (pre ++ X) = findMag X := by
  induction pre with
  | nil => rfl
  | cons c cs ih =>
    have hc := hpre c (by simp)
    simp only [List.cons_append, findMag, lemma_parseMag_nonstart c _ hc.1 hc.2]
    exact ih (fun x hx => hpre x (by simp [hx]))

/-- `r` does not continue a digit run into e-notation (`[eE][-+]`) -/
def NoSci (r : List Char) : Prop :=
  ∀ e sg r2, r = e :: sg :: r2 → ¬ ((e = 'e' ∨ e = 'E') ∧ (sg = '-' ∨ sg = '+'))

theorem lemma_parseSci_none (d r : List Char) (h : NoSci r) : parseSci d r = none := by
  unfold parseSci
  split
  · next e sg r2 =>
    have := h e sg r2 rfl
    rw [if_neg]
    rintro ⟨_, h1, h2, _⟩
    exact this ⟨h1, h2⟩
  · rfl

/-- the character after the first decides; it lies in a sign-free prefix `L` of at least two
    characters, or the whole text is sign-free -/
theorem lemma_noSci_of_prefix (L T : List Char) (hL : ∀ c ∈ L, c ≠ '+' ∧ c ≠ '-')
    (hlen : 2 ≤ L.length ∨ T = []) : NoSci (L ++ T) := by
  intro e sg r2 heq
  have hsg : sg ∈ L := by
    rcases hlen with hlen | rfl
    · match L, hlen with
      | a :: b :: L', _ => simp at heq; simp [heq.2.1]
    · rw [List.append_nil] at heq; simp [heq]
  have := hL sg hsg
  rintro ⟨_, h2 | h2⟩
  · exact this.2 h2
  · exact this.1 h2

theorem lemma_findMag_dec (ip : List Char) (fp : Option (List Char)) (R : List Char)
    (hwf : NumWF ip fp) (hend : NumEnd R) (hsci : NoSci R) :
    findMag (ip ++ dotFrac fp ++ R) = some (.dec ip fp, R) := by
  have hnum := lemma_parseNumber_render ip fp R hwf hend
  obtain ⟨h1, h2⟩ := lemma_digits_span ip fp R hwf.1 hend
  have hsci' : NoSci (dotFrac fp ++ R) := by
    cases fp with
    | none => exact hsci
    | some f =>
      rintro e' sg r2 heq ⟨h1, _⟩
      simp [dotFrac] at heq
      rw [← heq.1] at h1
      rcases h1 with h1 | h1 <;> exact absurd h1 (by decide)
  have hmag : parseMag (ip ++ dotFrac fp ++ R) = some (.dec ip fp, R) := by
    rw [parseMag, h1, h2, lemma_parseSci_none _ _ hsci', hnum]
  cases hX : ip ++ dotFrac fp ++ R with
  | nil =>
    rw [hX] at hnum
    simp [parseNumber, takeP, dropP, parseNumberAux] at hnum
  | cons c r =>
    rw [hX] at hmag
    simp only [findMag, hmag]

end Oslo.Units
