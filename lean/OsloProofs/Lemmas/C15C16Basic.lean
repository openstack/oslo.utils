/-
Facts about `Nat`, `List` and `Except` that both C15 and C16 use.
-/
namespace Oslo

theorem lemma_digit_div (q : Nat) {p r : Nat} (h : r < p) : (q * p + r) / p = q := by
  rw [Nat.mul_comm, Nat.mul_add_div (Nat.zero_lt_of_lt h), Nat.div_eq_of_lt h, Nat.add_zero]

theorem lemma_dropWhile_none {α} (p : α → Bool) (l : List α) (h : ∀ c ∈ l, p c = false) :
    l.dropWhile p = l := by
  cases l with
  | nil => rfl
  | cons a r => simp [List.dropWhile, h a (by simp)]

theorem lemma_map_error {ε α β} (f : α → β) (x : Except ε α) (e : ε) :
    Except.map f x = .error e ↔ x = .error e := by
  cases x <;> simp [Except.map]

end Oslo
