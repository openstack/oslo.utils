/-
What the parts of `StopWatch.step` do, each stated once, so that a proof about `step` needs no
case analysis on the shape of the watch.
-/
import OsloModel.StopWatch
namespace Oslo.StopWatch

variable (c : Nat → Int) (w : Watch)

/-- the timestamps a state needs are present -/
def WF (w : Watch) : Prop :=
  (w.state = .started → w.startedAt.isSome) ∧
  (w.state = .stopped → w.startedAt.isSome ∧ w.stoppedAt.isSome)

theorem doStop_eq : doStop c w =
    (if w.state = .started then
       { w with stoppedAt := some (c w.reads), state := .stopped, reads := w.reads + 1 }
     else w, decide (w.state ≠ .fresh)) := by
  cases h : w.state <;> simp [doStop, h]

theorem doStop_keeps :
    (doStop c w).1.startedAt = w.startedAt ∧ (doStop c w).1.splits = w.splits := by
  rw [doStop_eq]; dsimp only; split <;> exact ⟨rfl, rfl⟩

/-- the `maximum` argument of `elapsed` -/
def clamp : Option Int → Int → Int
  | some m, e => if e > m then max 0 m else e
  | none, e => e

theorem clamp_nonneg (m : Option Int) (e : Int) (h : 0 ≤ e) : 0 ≤ clamp m e := by
  cases m <;> simp only [clamp]
  · exact h
  · split <;> omega

theorem clamp_le (m e : Int) : clamp (some m) e ≤ max 0 m := by
  simp only [clamp]; split <;> omega

theorem clamp_of_le (m e : Int) (h : e ≤ m) : clamp (some m) e = e := by
  simp only [clamp]; exact if_neg (by omega)

theorem delta_nonneg (a b : Int) : 0 ≤ delta a b := by
  simp only [delta]; omega

theorem doElapsed_fresh (m : Option Int) (h : w.state = .fresh) :
    doElapsed c w m = (w, .runtimeError) := by
  simp only [doElapsed, h]

theorem doElapsed_started (m : Option Int) (s : Int) (h : w.state = .started)
    (ha : w.startedAt = some s) :
    doElapsed c w m = ({ w with reads := w.reads + 1 }, .num (clamp m (delta s (c w.reads)))) := by
  cases m <;> simp only [doElapsed, h, ha, clamp]

theorem doElapsed_stopped (m : Option Int) (s e : Int) (h : w.state = .stopped)
    (ha : w.startedAt = some s) (hb : w.stoppedAt = some e) :
    doElapsed c w m = (w, .num (clamp m (delta s e))) := by
  cases m <;> simp only [doElapsed, h, ha, hb, clamp]

theorem doElapsed_fst (m : Option Int) :
    ∃ r, w.reads ≤ r ∧ (doElapsed c w m).1 = { w with reads := r } := by
  unfold doElapsed; dsimp only; split
  · exact ⟨_, Nat.le_refl _, rfl⟩
  · split <;> exact ⟨_, Nat.le_refl _, rfl⟩
  · split <;> exact ⟨_, Nat.le_succ _, rfl⟩

/-- for all `maximum` at once, so that what is returned for one can be related to what is
    returned for another -/
theorem doElapsed_snd_cases :
    (w.state = .fresh ∧ ∀ m, (doElapsed c w m).2 = .runtimeError) ∨
    (w.state ≠ .fresh ∧ ∃ e, 0 ≤ e ∧ ∀ m, (doElapsed c w m).2 = .num (clamp m e)) ∨
    (¬ WF w ∧ ∀ m, (doElapsed c w m).2 = .typeError) := by
  cases h : w.state
  case fresh => exact .inl ⟨rfl, fun m => by rw [doElapsed_fresh c w m h]⟩
  case started =>
    cases ha : w.startedAt
    case none => exact .inr (.inr ⟨(fun hw => nomatch ha ▸ (hw.1 h)), fun m => by simp only [doElapsed, h, ha]⟩)
    case some s =>
      exact .inr (.inl ⟨nofun, _, delta_nonneg s _, fun m => by rw [doElapsed_started c w m s h ha]⟩)
  case stopped =>
    cases ha : w.startedAt
    case none => exact .inr (.inr ⟨(fun hw => nomatch ha ▸ (hw.2 h).1), fun m => by simp only [doElapsed, h, ha]⟩)
    case some s =>
      cases hb : w.stoppedAt
      case none => exact .inr (.inr ⟨(fun hw => nomatch hb ▸ (hw.2 h).2), fun m => by simp only [doElapsed, h, ha, hb]⟩)
      case some e =>
        exact .inr (.inl ⟨nofun, _, delta_nonneg s e,
          fun m => by rw [doElapsed_stopped c w m s e h ha hb]⟩)

theorem doElapsed_num {m : Option Int} {v : Int} (h : (doElapsed c w m).2 = .num v) :
    ∃ e, 0 ≤ e ∧ v = clamp m e ∧ ∀ m', (doElapsed c w m').2 = .num (clamp m' e) := by
  rcases doElapsed_snd_cases c w with ⟨_, he⟩ | ⟨_, e, h0, he⟩ | ⟨_, he⟩ <;> rw [he m] at h
  · cases h
  · cases h; exact ⟨e, h0, rfl, he⟩
  · cases h

/-- `split`, `leftover` and `expired` call `elapsed()` and go on with its value; whatever
    it raises instead passes through -/
def bindElapsed (p : Watch × Out) (k : Watch → Int → Watch × Out) : Watch × Out :=
  match p with
  | (w1, .num e) => k w1 e
  | (w1, o) => (w1, o)

variable {p : Watch × Out} {k : Watch → Int → Watch × Out}

theorem bindElapsed_num {e : Int} (h : p.2 = .num e) : bindElapsed p k = k p.1 e := by
  obtain ⟨w1, o⟩ := p; cases h; rfl

theorem bindElapsed_typeError (h : p.2 = .typeError) : bindElapsed p k = p := by
  obtain ⟨w1, o⟩ := p; cases h; rfl

theorem bindElapsed_cases (p : Watch × Out) (k : Watch → Int → Watch × Out) :
    (∃ e, p.2 = .num e ∧ bindElapsed p k = k p.1 e) ∨ ((∀ e, p.2 ≠ .num e) ∧ bindElapsed p k = p) := by
  obtain ⟨w1, o⟩ := p
  cases o
  case num e => exact .inl ⟨e, rfl, rfl⟩
  all_goals exact .inr ⟨nofun, rfl⟩

theorem step_split : step c w .split =
    if w.state = .started then
      bindElapsed (doElapsed c w none) fun w1 e =>
        let len := match w.splits.getLast? with
          | some last => delta last.elapsed e
          | none => e
        ({ w1 with splits := w1.splits ++ [⟨e, len⟩] }, .split ⟨e, len⟩)
    else (w, .runtimeError) := rfl

theorem step_leftover (rn : Bool) : step c w (.leftover rn) =
    if w.state ≠ .started then (w, .runtimeError)
    else match w.duration with
      | none => (w, if rn then .noneVal else .runtimeError)
      | some d => bindElapsed (doElapsed c w none) fun w1 e => (w1, .num (max 0 (d - e))) := rfl

theorem step_expired : step c w .expired =
    if w.state = .fresh then (w, .runtimeError)
    else match w.duration with
      | none => (w, .bool false)
      | some d => bindElapsed (doElapsed c w none) fun w1 e => (w1, .bool (e > d)) := rfl

theorem step_stop : step c w .stop =
    ((doStop c w).1, if (doStop c w).2 then .self else .runtimeError) := rfl

/-- the calls the state machine refuses -/
def Illegal (w : Watch) : Op → Prop
  | .stop | .elapsed _ | .expired => w.state = .fresh
  | .resume => w.state ≠ .stopped
  | .split => w.state ≠ .started
  | .leftover rn => w.state ≠ .started ∨ (rn = false ∧ w.duration = none)
  | _ => False

instance (op : Op) : Decidable (Illegal w op) := by
  cases op <;> unfold Illegal <;> infer_instance

theorem step_illegal {op : Op} (h : Illegal w op) : step c w op = (w, .runtimeError) := by
  cases op
  case stop => simp [step_stop, doStop_eq, show w.state = .fresh from h]
  case resume => simp only [step, if_neg h]
  case split => rw [step_split, if_neg h]
  case elapsed m => exact doElapsed_fresh c w m h
  case expired => rw [step_expired, if_pos (show w.state = .fresh from h)]
  case leftover rn =>
    rw [step_leftover]
    rcases h with h | ⟨rfl, hd⟩
    · rw [if_pos h]
    · split
      · rfl
      · rw [hd]; rfl
  all_goals exact h.elim

theorem bindElapsed_legal {k : Watch → Int → Watch × Out} (hs : w.state ≠ .fresh)
    (hk : ∀ w1 e, (k w1 e).2 ≠ .runtimeError ∧ (k w1 e).2 ≠ .typeError) :
    (bindElapsed (doElapsed c w none) k).2 ≠ .runtimeError ∧
    (WF w → (bindElapsed (doElapsed c w none) k).2 ≠ .typeError) := by
  rcases doElapsed_snd_cases c w with ⟨hf, _⟩ | ⟨_, e, _, he⟩ | ⟨hn, he⟩
  · exact absurd hf hs
  · rw [bindElapsed_num (he none)]
    exact ⟨(hk _ _).1, fun _ => (hk _ _).2⟩
  · rw [bindElapsed_typeError (he none), he none]
    exact ⟨nofun, fun hw => absurd hw hn⟩

theorem step_legal {op : Op} (h : ¬ Illegal w op) :
    (step c w op).2 ≠ .runtimeError ∧ (WF w → (step c w op).2 ≠ .typeError) := by
  cases op
  case stop => simp [step_stop, doStop_eq, show w.state ≠ .fresh from h]
  case resume => simp [step, show w.state = .stopped from Decidable.of_not_not h]
  case split =>
    have hs : w.state = .started := Decidable.of_not_not h
    rw [step_split, if_pos hs]
    exact bindElapsed_legal c w (by rw [hs]; nofun) fun _ _ => ⟨nofun, nofun⟩
  case elapsed m =>
    rcases doElapsed_snd_cases c w with ⟨hf, _⟩ | ⟨_, e, _, he⟩ | ⟨hn, he⟩
    · exact absurd hf h
    · exact ⟨(fun h' => nomatch (he m).symm.trans h'), fun _ h' => nomatch (he m).symm.trans h'⟩
    · exact ⟨(fun h' => nomatch (he m).symm.trans h'), fun hw => absurd hw hn⟩
  case leftover rn =>
    have hs : w.state = .started := Decidable.of_not_not fun hs => h (.inl hs)
    rw [step_leftover, if_neg (not_not_intro hs)]
    cases hd : w.duration
    · cases rn
      · exact absurd (.inr ⟨rfl, hd⟩) h
      · exact ⟨nofun, fun _ => nofun⟩
    · exact bindElapsed_legal c w (by rw [hs]; nofun) fun _ _ => ⟨nofun, nofun⟩
  case expired =>
    replace h : w.state ≠ .fresh := h
    rw [step_expired, if_neg h]
    cases w.duration
    · exact ⟨nofun, fun _ => nofun⟩
    · exact bindElapsed_legal c w h fun _ _ => ⟨nofun, nofun⟩
  all_goals exact ⟨nofun, fun _ => nofun⟩

theorem runtimeError_iff (op : Op) : (step c w op).2 = .runtimeError ↔ Illegal w op :=
  ⟨fun h => Decidable.byContradiction fun hn => (step_legal c w hn).1 h,
   fun h => congrArg Prod.snd (step_illegal c w h)⟩

theorem step_resume_fst :
    (step c w .resume).1 = if w.state = .stopped then { w with state := .started } else w := by
  simp only [step]; split <;> rfl

theorem bindElapsed_fst (hk : ∀ w1 e, (k w1 e).1 = w1) : (bindElapsed p k).1 = p.1 := by
  rcases bindElapsed_cases p k with ⟨e, _, h⟩ | ⟨_, h⟩ <;> rw [h]
  exact hk _ _

/-- Apart from start/stop/resume/restart and the context-manager pair, a call can move the read
    counter and nothing else — except that `split` also records a split. -/
theorem step_fst_cases (op : Op) :
    op = .start ∨ op = .enter ∨ op = .restart ∨ op = .stop ∨ op = .exit ∨ op = .resume ∨
    ∃ r sps, w.reads ≤ r ∧ (op = .split ∨ sps = w.splits) ∧
      (step c w op).1 = { w with reads := r, splits := sps } := by
  have same : ∃ r sps, w.reads ≤ r ∧ (op = .split ∨ sps = w.splits) ∧
      w = { w with reads := r, splits := sps } :=
    ⟨_, _, Nat.le_refl _, .inr rfl, rfl⟩
  have elapsed : ∀ m, ∃ r sps, w.reads ≤ r ∧ (op = .split ∨ sps = w.splits) ∧
      (doElapsed c w m).1 = { w with reads := r, splits := sps } := fun m =>
    have ⟨r, hr, he⟩ := doElapsed_fst c w m
    ⟨r, _, hr, .inr rfl, he⟩
  cases op
  case start | enter | restart | stop | exit | resume => simp only [true_or, or_true]
  all_goals refine .inr (.inr (.inr (.inr (.inr (.inr ?_)))))
  case hasStarted | hasStopped | splits => exact same
  case elapsed m => exact elapsed m
  case leftover rn =>
    rw [step_leftover]; split
    · exact same
    · split
      · exact same
      · rw [bindElapsed_fst fun _ _ => rfl]; exact elapsed none
  case expired =>
    rw [step_expired]; split
    · exact same
    · split
      · exact same
      · rw [bindElapsed_fst fun _ _ => rfl]; exact elapsed none
  case split =>
    rw [step_split]; split
    · have ⟨r, hr, he⟩ := doElapsed_fst c w none
      rcases bindElapsed_cases (doElapsed c w none) _ with ⟨e, _, h⟩ | ⟨_, h⟩ <;> rw [h]
      · exact ⟨r, _, hr, .inl rfl, by rw [he]⟩
      · exact ⟨r, _, hr, .inl rfl, he⟩
    · exact ⟨_, _, Nat.le_refl _, .inl rfl, rfl⟩

theorem exec_invariant {P : Watch → Prop} (hstep : ∀ w op, P w → P (step c w op).1)
    (ops : List Op) : ∀ w, P w → P (exec c w ops) := by
  induction ops with
  | nil => exact fun _ h => h
  | cons op ops ih => exact fun w h => ih _ (hstep w op h)

end Oslo.StopWatch
