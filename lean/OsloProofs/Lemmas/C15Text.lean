/-
Helper lemmas for C15, text half: str.split / rsplit, int() on digit strings,
the character classes accepted by the inet_pton models, the dict model.
-/
import OsloModel.HostPort
import OsloProofs.Lemmas.C15C16Basic
namespace Oslo.HostPort

theorem lemma_splitOn_of_notMem (sep : Char) (a : List Char) (h : sep ∉ a) : splitOn sep a = [a] := by
  induction a with
  | nil => rfl
  | cons c a ih =>
    have hc : c ≠ sep := fun e => h (by simp [e])
    have ha : sep ∉ a := fun e => h (by simp [e])
    simp [splitOn, hc, ih ha]

theorem lemma_splitOn_append (sep : Char) (a b : List Char) (h : sep ∉ a) :
    splitOn sep (a ++ sep :: b) = a :: splitOn sep b := by
  induction a with
  | nil => simp [splitOn]
  | cons c a ih =>
    have hc : c ≠ sep := fun e => h (by simp [e])
    have ha : sep ∉ a := fun e => h (by simp [e])
    simp [splitOn, hc, ih ha]

theorem lemma_splitOn_ne_nil (sep : Char) (s : List Char) : splitOn sep s ≠ [] := by
  fun_induction splitOn sep s <;> simp_all

/-- `sep in s` implies `s.split(sep)` has at least two parts (so `[1]` exists) -/
theorem lemma_splitOn_two (sep : Char) (s : List Char) (h : sep ∈ s) :
    ∃ a b rest, splitOn sep s = a :: b :: rest := by
  induction s with
  | nil => simp at h
  | cons c cs ih =>
    by_cases hc : c = sep
    · rcases hs : splitOn sep cs with _ | ⟨b, rest⟩
      · exact absurd hs (lemma_splitOn_ne_nil sep cs)
      · exact ⟨[], b, rest, by simp [splitOn, hc, hs]⟩
    · have hm : sep ∈ cs := by
        rcases List.mem_cons.mp h with e | e
        · exact absurd e.symm hc
        · exact e
      obtain ⟨a, b, rest, e⟩ := ih hm
      exact ⟨c :: a, b, rest, by simp [splitOn, hc, e]⟩

theorem lemma_rsplit1_none (sep : Char) (s : List Char) (h : sep ∉ s) : rsplit1 sep s = (s, none) := by
  induction s with
  | nil => rfl
  | cons c s ih =>
    have hc : c ≠ sep := fun e => h (by simp [e])
    have hs : sep ∉ s := fun e => h (by simp [e])
    simp [rsplit1, ih hs, hc]

theorem lemma_rsplit1_some (sep : Char) (a t : List Char) (h : sep ∉ t) :
    rsplit1 sep (a ++ sep :: t) = (a, some t) := by
  induction a with
  | nil => simp [rsplit1, lemma_rsplit1_none sep t h]
  | cons c a ih => simp [rsplit1, ih]

theorem lemma_rsplit1_spec (sep : Char) (s : List Char) :
    (∀ a t, rsplit1 sep s = (a, some t) → s = a ++ sep :: t ∧ sep ∉ t) ∧
    (∀ a, rsplit1 sep s = (a, none) → s = a ∧ sep ∉ s) := by
  induction s with
  | nil => simp [rsplit1]
  | cons c s ih =>
    obtain ⟨ih1, ih2⟩ := ih
    rcases hr : rsplit1 sep s with ⟨a0, _ | t0⟩
    · have ⟨e, hn⟩ := ih2 a0 hr
      subst e
      by_cases hc : c = sep
      · subst hc; simp [rsplit1, hr]; exact hn
      · simp [rsplit1, hr, hc]; exact ⟨fun e => hc e.symm, hn⟩
    · have ⟨e, hn⟩ := ih1 a0 t0 hr
      simp [rsplit1, hr]
      exact ⟨e, hn⟩

/-- value of a string of decimal digits (the specification `int()` is compared with) -/
def decVal (ds : List Char) : Nat := ds.foldl (fun a c => a * 10 + (c.toNat - 48)) 0

theorem lemma_parseDigits_digits (ds : List Char) :
    ∀ (acc n : Nat) (prev : Bool), (∀ c ∈ ds, isDigit c = true) → (ds ≠ [] ∨ prev = true) →
      parseDigits ds acc n prev
        = some (ds.foldl (fun a c => a * 10 + (c.toNat - 48)) acc, n + ds.length) := by
  induction ds with
  | nil => intro acc n prev _ h; simp at h; simp [parseDigits, h]
  | cons c cs ih =>
    intro acc n prev hd _
    have hc : isDigit c = true := hd c (by simp)
    have hcs : ∀ x ∈ cs, isDigit x = true := fun x hx => hd x (by simp [hx])
    simp only [parseDigits, hc, if_true]
    rw [ih _ _ true hcs (Or.inr rfl)]
    simp; omega

theorem lemma_digit_not_space (c : Char) (h : isDigit c = true) : isAsciiSpace c = false := by
  simp [isDigit, isAsciiSpace] at *; omega

theorem lemma_strip_digits (ds : List Char) (hd : ∀ c ∈ ds, isDigit c = true) : strip ds = ds := by
  have h1 : ∀ c ∈ ds, isAsciiSpace c = false := fun c hc => lemma_digit_not_space c (hd c hc)
  have h2 : ∀ c ∈ ds.reverse, isAsciiSpace c = false := fun c hc => h1 c (by simpa using hc)
  simp [strip, lemma_dropWhile_none _ ds h1, lemma_dropWhile_none _ ds.reverse h2]

theorem lemma_pyInt_digits (ds : List Char) (hne : ds ≠ []) (hd : ∀ c ∈ ds, isDigit c = true)
    (hlen : ds.length ≤ maxStrDigits) : pyInt ds = .ok (decVal ds : Int) := by
  have hascii : ds.any (fun c => decide (c.toNat ≥ 128)) = false := by
    rw [List.any_eq_false]; intro c hc
    have := hd c hc; simp [isDigit] at this; simp; omega
  have hsign : signSplit ds = (false, ds) := by
    cases ds with
    | nil => exact absurd rfl hne
    | cons c cs =>
      have hc : isDigit c = true := hd c (by simp)
      have hm : c ≠ '-' := by intro e; subst e; revert hc; decide
      have hp : c ≠ '+' := by intro e; subst e; revert hc; decide
      unfold signSplit
      split
      · next h => simp at h; exact absurd h.1 hm
      · next h => simp at h; exact absurd h.1 hp
      · rfl
  unfold pyInt
  rw [hascii, lemma_strip_digits ds hd, hsign]
  simp only [Bool.false_eq_true, if_false]
  rw [lemma_parseDigits_digits ds 0 0 false hd (Or.inl hne)]
  simp only [Nat.zero_add]
  rw [if_neg (by omega)]
  rfl

theorem lemma_pton4Loop_chars (s : List Char) (saw : Bool) (octets cur : Nat)
    (h : pton4Loop s saw octets cur = true) : ∀ c ∈ s, isDigit c = true ∨ c = '.' := by
  fun_induction pton4Loop s saw octets cur <;> simp_all

theorem lemma_pton4_chars (s : List Char) (h : pton4 s = true) :
    ∀ c ∈ s, isDigit c = true ∨ c = '.' := lemma_pton4Loop_chars s _ _ _ h

/-- the characters an accepted IPv6 text can contain -/
def okV6Char (c : Char) : Prop := isHex c = true ∨ c = ':' ∨ c = '.'

/-- one step of the inet_pton6 loop that does not reject: a hex digit, a ':' (the first of '::',
    or the end of a group), or the '.' that hands the current group over to inet_pton4 -/
theorem lemma_pton6Loop_step {ch : Char} {rest ct : List Char} {tp xd : Nat} {colon : Option Nat}
    {r : Nat × Option Nat × Nat} (h : pton6Loop (ch :: rest) ct tp colon xd = some r) :
    (isHex ch = true ∧ pton6Loop rest ct tp colon (xd + 1) = some r) ∨
    (ch = ':' ∧ ((xd = 0 ∧ pton6Loop rest rest tp (some tp) 0 = some r) ∨
      (xd ≠ 0 ∧ pton6Loop rest rest (tp + 2) colon 0 = some r))) ∨
    (isHex ch = false ∧ ch ≠ ':' ∧ pton4 ct = true ∧ r = (tp + 4, colon, 0)) := by
  rw [pton6Loop] at h
  by_cases hh : isHex ch = true
  · rw [if_pos hh] at h
    by_cases h4 : xd = 4
    · rw [if_pos h4] at h; cases h
    · rw [if_neg h4] at h; exact Or.inl ⟨hh, h⟩
  rw [if_neg hh] at h
  by_cases hc : ch = ':'
  · rw [if_pos hc] at h
    refine Or.inr (Or.inl ⟨hc, ?_⟩)
    by_cases h0 : xd = 0
    · rw [if_pos h0] at h
      by_cases hs : colon.isSome = true
      · rw [if_pos hs] at h; cases h
      · rw [if_neg hs] at h; exact Or.inl ⟨h0, h⟩
    · rw [if_neg h0] at h
      by_cases hr : rest = []
      · rw [if_pos hr] at h; cases h
      · rw [if_neg hr] at h
        by_cases ht : tp + 2 > 16
        · rw [if_pos ht] at h; cases h
        · rw [if_neg ht] at h; exact Or.inr ⟨h0, h⟩
  · rw [if_neg hc] at h
    by_cases hd : (ch = '.' && tp + 4 ≤ 16 && pton4 ct) = true
    · rw [if_pos hd] at h
      simp only [Bool.and_eq_true] at hd
      exact Or.inr (Or.inr ⟨by simpa using hh, hc, hd.2, (Option.some.inj h).symm⟩)
    · rw [if_neg hd] at h; cases h

theorem lemma_pton6Loop_chars {s ct : List Char} {tp xd : Nat} {colon : Option Nat}
    {r : Nat × Option Nat × Nat} (h : pton6Loop s ct tp colon xd = some r)
    (hsub : ∀ c ∈ s, c ∈ ct) : ∀ c ∈ s, okV6Char c := by
  induction s generalizing ct tp colon xd with
  | nil => intro c hc; cases hc
  | cons ch rest ih =>
    intro c hc
    -- after the '.', everything is part of the dotted quad `ct`
    have h4 : pton4 ct = true → okV6Char c := fun h4 =>
      (lemma_pton4_chars ct h4 c (hsub c hc)).elim (fun hd => Or.inl (by simp [isHex, hd]))
        (fun hd => Or.inr (Or.inr hd))
    have hrest : ∀ x ∈ rest, x ∈ ct := fun x hx => hsub x (List.mem_cons_of_mem _ hx)
    rcases List.mem_cons.mp hc with rfl | e
    · rcases lemma_pton6Loop_step h with ⟨hh, _⟩ | ⟨hcol, _⟩ | ⟨_, _, hp, _⟩
      · exact Or.inl hh
      · exact Or.inr (Or.inl hcol)
      · exact h4 hp
    · rcases lemma_pton6Loop_step h with ⟨_, hr⟩ | ⟨_, ⟨_, hr⟩ | ⟨_, hr⟩⟩ | ⟨_, _, hp, _⟩
      · exact ih hr hrest c e
      · exact ih hr (fun _ hx => hx) c e
      · exact ih hr (fun _ hx => hx) c e
      · exact h4 hp

/-- The hypothesis is the end of `pton6` as it stands in the model, after the loop has returned
    `(tp, colon, xd)`: a last group of `xd > 0` digits still counts two bytes, and without "::" the
    count must be exactly 16. -/
theorem lemma_pton6_final {tp xd : Nat} {colon : Option Nat}
    (h : (match (if xd > 0 then (if tp + 2 > 16 then none else some (tp + 2)) else some tp : Option Nat) with
        | none => false
        | some tp' =>
          match colon with
          | some _ => decide (tp' ≠ 16)
          | none => decide (tp' = 16)) = true) :
    colon = none → tp + (if xd > 0 then 2 else 0) = 16 := by
  rintro rfl
  by_cases hx : xd > 0
  · rw [if_pos hx] at h ⊢
    by_cases ht : tp + 2 > 16
    · rw [if_pos ht] at h; cases h
    · rw [if_neg ht] at h; simpa using h
  · rw [if_neg hx] at h ⊢; simpa using h

/-- an accepted text ran through the loop, either whole or (after a leading "::") from its second
    character, and passed the final count of bytes -/
theorem lemma_pton6_inv {s : List Char} (h : pton6 s = true) :
    ∃ src tp colon xd, pton6Loop src src 0 none 0 = some (tp, colon, xd) ∧
      (s = src ∧ s.head? ≠ some ':' ∨ s = ':' :: src ∧ src.head? = some ':') ∧
      (colon = none → tp + (if xd > 0 then 2 else 0) = 16) := by
  unfold pton6 at h
  cases s with
  | nil => cases h
  | cons c cs =>
    simp only at h
    by_cases hc : c = ':'
    · subst hc
      rw [if_pos rfl] at h
      cases cs with
      | nil => cases h
      | cons c2 cs2 =>
        by_cases hc2 : c2 = ':'
        · subst hc2
          simp only at h
          split at h
          · cases h
          · next tp colon xd hr => exact ⟨_, tp, colon, xd, hr, Or.inr ⟨rfl, rfl⟩, lemma_pton6_final h⟩
        · exfalso; revert h; split <;> simp_all
    · rw [if_neg hc] at h
      simp only at h
      split at h
      · cases h
      · next tp colon xd hr =>
        exact ⟨_, tp, colon, xd, hr, Or.inl ⟨rfl, by simpa using hc⟩, lemma_pton6_final h⟩

theorem lemma_pton6_chars (s : List Char) (h : pton6 s = true) : ∀ c ∈ s, okV6Char c := by
  obtain ⟨src, tp, colon, xd, hr, hs, _⟩ := lemma_pton6_inv h
  have := lemma_pton6Loop_chars hr (fun _ hx => hx)
  rcases hs with ⟨rfl, _⟩ | ⟨rfl, _⟩
  · exact this
  · intro x hx
    rcases List.mem_cons.mp hx with rfl | e
    · exact Or.inr (Or.inl rfl)
    · exact this x e

theorem lemma_pton6Loop_no_colon {s ct : List Char} {tp xd tp' xd' : Nat} {colon colon' : Option Nat}
    (hno : ':' ∉ s) (h : pton6Loop s ct tp colon xd = some (tp', colon', xd')) :
    colon' = colon ∧ (tp' = tp ∨ (tp' = tp + 4 ∧ xd' = 0)) := by
  induction s generalizing ct tp colon xd with
  | nil => simp [pton6Loop] at h; obtain ⟨rfl, rfl, rfl⟩ := h; simp
  | cons ch rest ih =>
    rcases lemma_pton6Loop_step h with ⟨_, hr⟩ | ⟨hcol, _⟩ | ⟨_, _, _, hr⟩
    · exact ih (fun e => hno (List.mem_cons_of_mem _ e)) hr
    · exact absurd (hcol ▸ List.mem_cons_self) hno
    · cases hr; simp

theorem lemma_pton6_no_colon (s : List Char) (hno : ':' ∉ s) : pton6 s = false := by
  refine Bool.eq_false_iff.2 fun h => ?_
  obtain ⟨src, tp, colon, xd, hr, hs, hf⟩ := lemma_pton6_inv h
  rcases hs with ⟨rfl, _⟩ | ⟨rfl, _⟩
  · obtain ⟨rfl, ht⟩ := lemma_pton6Loop_no_colon hno hr
    have := hf rfl
    split at this <;> omega
  · exact hno List.mem_cons_self

theorem lemma_isValidIPv6_no_colon (h : List Char) (hno : ':' ∉ h) : isValidIPv6 h = false := by
  unfold isValidIPv6
  by_cases he : h = []
  · simp [he]
  · simp only [he, if_false]
    rcases hr : rsplit1 '%' h with ⟨a, _ | t⟩
    · obtain ⟨rfl, _⟩ := (lemma_rsplit1_spec '%' h).2 a hr
      exact lemma_pton6_no_colon h hno
    · obtain ⟨e, _⟩ := (lemma_rsplit1_spec '%' h).1 a t hr
      simp only
      split
      · rfl
      · exact lemma_pton6_no_colon a fun hc => hno (e ▸ List.mem_append_left _ hc)

theorem lemma_count_one_split (c : Char) (l : List Char) (h : l.count c = 1) :
    ∃ x y, l = x ++ c :: y ∧ c ∉ x ∧ c ∉ y := by
  induction l with
  | nil => simp at h
  | cons a l ih =>
    by_cases ha : a = c
    · subst ha
      rw [List.count_cons_self] at h
      have h0 : l.count a = 0 := by omega
      exact ⟨[], l, rfl, by simp, List.count_eq_zero.mp h0⟩
    · have hne : (a == c) = false := by simpa using ha
      rw [List.count_cons, hne] at h
      obtain ⟨x, y, e, hx, hy⟩ := ih (by simpa using h)
      refine ⟨a :: x, y, by simp [e], ?_, hy⟩
      intro hm; rcases List.mem_cons.mp hm with e' | e'
      · exact ha e'.symm
      · exact hx e'

/-- a run that succeeds reads a ':'-free prefix as hex digits only: it arrives at the ':' with the
    digit count advanced by the length of the prefix -/
theorem lemma_pton6Loop_to_colon {x y ct : List Char} {tp xd : Nat} {colon : Option Nat}
    {r : Nat × Option Nat × Nat} (hno : ':' ∉ x) (hsub : ∀ c ∈ x ++ ':' :: y, c ∈ ct)
    (h : pton6Loop (x ++ ':' :: y) ct tp colon xd = some r) :
    pton6Loop (':' :: y) ct tp colon (xd + x.length) = some r := by
  induction x generalizing xd with
  | nil => simpa using h
  | cons ch xs ih =>
    rcases lemma_pton6Loop_step h with ⟨_, hr⟩ | ⟨hcol, _⟩ | ⟨_, _, h4, _⟩
    · rw [List.length_cons, show xd + (xs.length + 1) = xd + 1 + xs.length by omega]
      exact ih (fun e => hno (List.mem_cons_of_mem _ e))
        (fun c hc => hsub c (List.mem_cons_of_mem _ hc)) hr
    · exact absurd (hcol ▸ List.mem_cons_self) hno
    · -- a dotted quad contains no ':'
      rcases lemma_pton4_chars ct h4 ':' (hsub ':' (by simp)) with hd | hd
      · exact absurd hd (by decide)
      · exact absurd hd (by decide)

theorem lemma_pton6_count_ne_one (s : List Char) (h : pton6 s = true) : s.count ':' ≠ 1 := by
  intro hc
  obtain ⟨x, y, rfl, hx, hy⟩ := lemma_count_one_split ':' s hc
  obtain ⟨src, tp, colon, xd, hr, hs, hf⟩ := lemma_pton6_inv h
  rcases hs with ⟨rfl, hhead⟩ | ⟨e, hhead⟩
  · cases x with
    | nil => exact hhead rfl
    | cons c xs =>
      have hr' := lemma_pton6Loop_to_colon hx (fun _ hm => hm) hr
      -- now at the single colon with at least one digit seen
      rcases lemma_pton6Loop_step hr' with ⟨hh, _⟩ | ⟨_, ⟨h0, _⟩ | ⟨_, hr''⟩⟩ | ⟨_, hne, _⟩
      · exact absurd hh (by decide)
      · simp at h0
      · obtain ⟨rfl, ht⟩ := lemma_pton6Loop_no_colon hy hr''
        have := hf rfl
        split at this <;> omega
      · exact hne rfl
  · -- a leading ':' must be followed by another one
    cases x with
    | nil =>
      obtain rfl : y = src := List.tail_eq_of_cons_eq e
      exact hy (List.mem_of_head? hhead)
    | cons c xs => exact hx ((List.head_eq_of_cons_eq e) ▸ List.mem_cons_self)

theorem lemma_foldl_invariant {α β} (P : β → Prop) (f : β → α → β) (h : ∀ b a, P b → P (f b a))
    (l : List α) (b : β) (hb : P b) : P (l.foldl f b) := by
  induction l generalizing b with
  | nil => exact hb
  | cons a l ih => exact ih _ (h b a hb)

theorem lemma_dictGet_dictSet {β} (d : List (List Char × β)) (k k' : List Char) (v : β) :
    dictGet (dictSet d k' v) k = if k' = k then some v else dictGet d k := by
  fun_induction dictSet d k' v <;> grind [dictGet]

theorem lemma_dictSet_keys {β} (d : List (List Char × β)) (k : List Char) (v : β) :
    (dictSet d k v).map Prod.fst
      = if k ∈ d.map Prod.fst then d.map Prod.fst else d.map Prod.fst ++ [k] := by
  induction d with
  | nil => simp [dictSet]
  | cons e d ih =>
    obtain ⟨k0, v0⟩ := e
    by_cases h0 : k0 = k
    · subst h0; simp [dictSet]
    · have : ¬ k = k0 := fun e => h0 e.symm
      simp only [dictSet, h0, if_false, List.map_cons, ih, List.mem_cons, this, false_or]
      split <;> simp

theorem lemma_dictSet_nodup {β} (d : List (List Char × β)) (k : List Char) (v : β)
    (h : (d.map Prod.fst).Nodup) : ((dictSet d k v).map Prod.fst).Nodup := by
  rw [lemma_dictSet_keys]
  split
  · exact h
  · next hk =>
    rw [List.nodup_append]
    refine ⟨h, by simp, ?_⟩
    intro a ha b hb
    simp at hb; subst hb
    exact fun e => hk (e ▸ ha)

theorem lemma_getLast?_cons_or {α} (v : α) (l : List α) :
    (v :: l).getLast? = l.getLast?.or (some v) := by
  cases l with
  | nil => rfl
  | cons x l =>
    rw [List.getLast?_cons_cons]
    cases h : (x :: l).getLast? with
    | none => simp at h
    | some y => rfl

/-- values a dict entry stands for -/
def valsOf : Option PVal → List (List Char)
  | none => []
  | some (.one v) => [v]
  | some (.many vs) => vs

/-- the dict entry `params(collapse=False)` uses for a list of values -/
def ofVals : List (List Char) → Option PVal
  | [] => none
  | [v] => some (.one v)
  | vs => some (.many vs)

theorem lemma_allStep_vals (d : List (List Char × PVal)) (kv : List Char × List Char)
    (k : List Char) :
    valsOf (dictGet (allStep d kv) k)
      = valsOf (dictGet d k) ++ (if kv.1 = k then [kv.2] else []) := by
  unfold allStep
  by_cases hk : kv.1 = k
  · subst hk
    rcases hg : dictGet d kv.1 with _ | (x | vs) <;> simp [lemma_dictGet_dictSet, valsOf]
  · rcases hg : dictGet d kv.1 with _ | (x | vs) <;> simp [lemma_dictGet_dictSet, hk]

/-- a list value always has at least two elements -/
def Canon (d : List (List Char × PVal)) : Prop :=
  ∀ k vs, dictGet d k = some (.many vs) → 2 ≤ vs.length

theorem lemma_allStep_canon (d : List (List Char × PVal)) (kv : List Char × List Char)
    (h : Canon d) : Canon (allStep d kv) := by
  intro k vs hg
  unfold allStep at hg
  by_cases hk : kv.1 = k
  · subst hk
    rcases hd : dictGet d kv.1 with _ | (x | vs0)
    · simp [hd, lemma_dictGet_dictSet] at hg
    · simp [hd, lemma_dictGet_dictSet] at hg; subst hg; simp
    · simp [hd, lemma_dictGet_dictSet] at hg; subst hg
      have := h _ _ hd; simp; omega
  · rcases hd : dictGet d kv.1 with _ | (x | vs0) <;>
      (simp [hd, lemma_dictGet_dictSet, hk] at hg; exact h _ _ hg)

theorem lemma_ofVals_valsOf (o : Option PVal) (h : ∀ vs, o = some (.many vs) → 2 ≤ vs.length) :
    o = ofVals (valsOf o) := by
  rcases o with _ | (x | vs)
  · rfl
  · rfl
  · have := h vs rfl
    match vs, this with
    | a :: b :: rest, _ => rfl

theorem lemma_foldl_allStep (qsl : List (List Char × List Char)) (d : List (List Char × PVal))
    (k : List Char) :
    valsOf (dictGet (qsl.foldl allStep d) k)
      = valsOf (dictGet d k) ++ (qsl.filter (fun kv => kv.1 = k)).map Prod.snd := by
  induction qsl generalizing d with
  | nil => simp
  | cons kv rest ih =>
    simp only [List.foldl_cons, ih, lemma_allStep_vals]
    by_cases hk : kv.1 = k <;> simp [hk]

theorem lemma_allStep_nodup (d : List (List Char × PVal)) (kv : List Char × List Char)
    (h : (d.map Prod.fst).Nodup) : ((allStep d kv).map Prod.fst).Nodup := by
  unfold allStep
  rcases dictGet d kv.1 with _ | (x | vs) <;> exact lemma_dictSet_nodup _ _ _ h

theorem lemma_foldl_collapse (qsl : List (List Char × List Char))
    (d : List (List Char × List Char)) (k : List Char) :
    dictGet (qsl.foldl (fun d kv => dictSet d kv.1 kv.2) d) k
      = (((qsl.filter (fun kv => kv.1 = k)).map Prod.snd).getLast?).or (dictGet d k) := by
  induction qsl generalizing d with
  | nil => simp
  | cons kv rest ih =>
    simp only [List.foldl_cons, ih, lemma_dictGet_dictSet]
    by_cases hk : kv.1 = k
    · simp only [hk, if_true, List.filter_cons, decide_true, List.map_cons,
        lemma_getLast?_cons_or]
      cases ((rest.filter (fun kv => kv.1 = k)).map Prod.snd).getLast? <;> simp
    · simp [hk]

theorem lemma_dictGet_map_one (d : List (List Char × List Char)) (k : List Char) :
    dictGet (d.map (fun kv => (kv.1, PVal.one kv.2))) k = (dictGet d k).map PVal.one := by
  induction d with
  | nil => rfl
  | cons e d ih => by_cases h : e.1 = k <;> simp [dictGet, h, ih]

end Oslo.HostPort
