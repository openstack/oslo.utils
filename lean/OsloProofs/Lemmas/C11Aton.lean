/-
Helper lemmas for C11: the inet_aton model on canonical dotted quads.
-/
import OsloProofs.Lemmas.C11V4
namespace Oslo.Net

theorem lemma_spanVal_digits (t R : List Char) (hd : ∀ c ∈ t, isDigit c = true)
    (hR : ∀ c r, R = c :: r → isDigit c = false) (acc : Nat) :
    spanVal isDigit 10 digitVal acc (t ++ R) = (t.foldl (fun a c => a * 10 + digitVal c) acc, R) := by
  induction t generalizing acc with
  | nil =>
    cases R with
    | nil => rfl
    | cons c r => rw [List.nil_append, spanVal, hR c r rfl]; rfl
  | cons c t ih =>
    rw [List.cons_append, spanVal, if_pos (hd c (by simp)), ih (fun x hx => hd x (by simp [hx]))]
    rfl

/-- `strtoul(…, 0)` on decimal digits without leading zero, followed by '.' or by the end of the text:
    a lone "0" is read as an octal numeral, everything else as a decimal one -/
theorem lemma_strtoul0_dec (t R : List Char) (hne : t ≠ []) (hd : ∀ c ∈ t, isDigit c = true)
    (hz : leadingZero t = false) (hR : R = [] ∨ ∃ R', R = '.' :: R') :
    strtoul0 (t ++ R) = (decVal t, R) := by
  match t, hne with
  | c :: r, _ =>
    by_cases h0 : c = '0'
    · subst h0
      match r, hz with
      | [], _ =>
        rcases hR with rfl | ⟨R', rfl⟩
        · rfl
        · cases R' <;> rfl
    · have hR' : ∀ x r', R = x :: r' → isDigit x = false := by
        rcases hR with rfl | ⟨R', rfl⟩
        · intro x r' e; cases e
        · intro x r' e; cases e; rfl
      simp only [List.cons_append, strtoul0, h0, if_false]
      rw [← List.cons_append, lemma_spanVal_digits _ R hd hR']
      rfl

theorem lemma_strtoul0_render (n : Nat) (hn : n < 256) (R : List Char) (hR : R = [] ∨ ∃ R', R = '.' :: R') :
    strtoul0 (renderOctet n ++ R) = (n, R) := by
  obtain ⟨hd, hz, hv⟩ := lemma_renderOctet n hn
  rw [lemma_strtoul0_dec _ R (List.ne_nil_of_length_pos (lemma_renderOctet_length n).1) hd hz hR, hv]

theorem lemma_render_head (n : Nat) (hn : n < 256) : ∃ c t, renderOctet n = c :: t ∧ isDigit c = true := by
  have hd := (lemma_renderOctet n hn).1
  cases h : renderOctet n with
  | nil => unfold renderOctet at h; split at h <;> (try split at h) <;> simp at h
  | cons c t => exact ⟨c, t, rfl, hd c (by simp [h])⟩

theorem lemma_aton_step (n : Nat) (hn : n < 256) (rem : Nat) (R : List Char) :
    atonGo (rem + 1) (renderOctet n ++ '.' :: R) = atonGo rem R := by
  have hs := lemma_strtoul0_render n hn ('.' :: R) (Or.inr ⟨R, rfl⟩)
  obtain ⟨c, t, e, hc⟩ := lemma_render_head n hn
  rw [atonGo.eq_def]
  rw [e] at hs ⊢
  simp only [List.cons_append] at hs ⊢
  simp only [hc, hs, Bool.not_true, Bool.false_eq_true, if_false, if_true]
  rw [if_neg (by omega), if_neg (by omega)]

theorem lemma_aton_last (n : Nat) (hn : n < 256) (rem : Nat) : atonGo rem (renderOctet n) = true := by
  have hs := lemma_strtoul0_render n hn [] (Or.inl rfl)
  obtain ⟨c, t, e, hc⟩ := lemma_render_head n hn
  have hmax : n ≤ atonMax rem := by
    unfold atonMax; split <;> omega
  rw [atonGo.eq_def]
  rw [List.append_nil] at hs
  rw [e] at hs ⊢
  simp only [hc, hs, Bool.not_true, Bool.false_eq_true, if_false]
  rw [if_neg (by omega)]
  simp [hmax]

theorem lemma_isValidIPv4Aton_quad {a b c d : Nat} (ha : a < 256) (hb : b < 256) (hc : c < 256) (hd : d < 256) :
    isValidIPv4Aton (renderQuad a b c d) = true := by
  have hcolon := lemma_renderQuad_notin ha hb hc hd ':' (by decide) (by decide)
  have hnul := lemma_renderQuad_notin ha hb hc hd nul (by decide) (by decide)
  have h : atonGo 3 (renderQuad a b c d) = true := by
    unfold renderQuad
    rw [lemma_aton_step a ha, lemma_aton_step b hb, lemma_aton_step c hc, lemma_aton_last d hd]
  simp [isValidIPv4Aton, lemma_renderQuad_isEmpty, hcolon, hnul, h]

end Oslo.Net
