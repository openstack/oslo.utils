/-
VHDX: a byte-level description of a well-formed image (`VhdxImage`) and what the two table walks
find on it.
-/
import OsloProofs.Lemmas.VhdxBytes
namespace Oslo.Insp

/-- **a well-formed VHDX image**, byte by byte: the region table at 192 KiB has the `regi` signature
    and `rc` entries, the first one carrying the metadata GUID is entry `j` and points to `mo` ≥ 256 KiB;
    at `mo` the metadata table has the `metadata` signature and `mc` entries, the first one carrying
    the virtual-disk-size GUID is entry `i`, with item offset `ioff` at or after the end of the entry
    table and item length 8; the stream
    reaches the end of that item. -/
structure VhdxImage (s : Bytes) (rc j mo mc i ioff : Nat) : Prop where
  regi : leNat (slice s 196608 196612) = 0x69676572
  rcount : leNat (slice s 196616 196620) = rc
  rc_lt : rc < 2048
  j_lt : j < rc
  rbefore : ∀ k, k < j → slice s (196624 + k * 32) (196624 + k * 32 + 16) ≠ Gen.vhdxMetaRegionGuid
  rguid : slice s (196624 + j * 32) (196624 + j * 32 + 16) = Gen.vhdxMetaRegionGuid
  roff : leNat (slice s (196624 + j * 32 + 16) (196624 + j * 32 + 24)) = mo
  mo_ge : 262144 ≤ mo
  msig : slice s mo (mo + 8) = ascii "metadata"
  mcount : leNat (slice s (mo + 10) (mo + 12)) = mc
  mc_lt : mc < 2047
  i_lt : i < mc
  mbefore : ∀ k, k < i → slice s (mo + 32 + k * 32) (mo + 32 + k * 32 + 16) ≠ Gen.vhdxVdsGuid
  mguid : slice s (mo + 32 + i * 32) (mo + 32 + i * 32 + 16) = Gen.vhdxVdsGuid
  mioff : leNat (slice s (mo + 32 + i * 32 + 16) (mo + 32 + i * 32 + 20)) = ioff
  milen : leNat (slice s (mo + 32 + i * 32 + 20) (mo + 32 + i * 32 + 24)) = 8
  ioff_ge : 32 + mc * 32 ≤ ioff
  hlen : mo + ioff + 8 ≤ s.length

/-- a field (bytes `lo` to `hi`) of entry `k` of a table of `c` 32-byte entries that starts `B`
    bytes into the `L` bytes of the stream at `o` -/
theorem lemma_table_field (s : Bytes) (o L B c k lo hi : Nat) (hc : B + c * 32 ≤ L) (hk : k < c) (hhi : hi ≤ 32) :
    slice (sliceOf s o L) (B + k * 32 + lo) (B + k * 32 + hi) =
      slice s (o + B + k * 32 + lo) (o + B + k * 32 + hi) := by
  rw [lemma_slice_sliceOf _ _ _ _ _ (lemma_add_le (lemma_entry_le hc hk) hhi)]
  simp only [Nat.add_assoc]

/- In the two lemmas below the fields of `VhdxImage` are stated at absolute offsets (`196624 + k * 32`
   for `196608 + 16 + k * 32`); the constants are added up when the terms are checked. -/

theorem lemma_image_region (s : Bytes) (rc j mo mc i ioff : Nat) (h : VhdxImage s rc j mo mc i ioff) :
    findMetaRegionB (sliceOf s 196608 65536) = .ok (some mo) := by
  have hlen : (sliceOf s 196608 65536).length = 65536 := by
    have := h.hlen; have := h.mo_ge; rw [lemma_sliceOf_length]; omega
  have hc : 16 + rc * 32 ≤ 65536 := by have := h.rc_lt; omega
  have hj := h.j_lt
  have head := fun a e he => congrArg leNat (lemma_slice_sliceOf s 196608 65536 a e he)
  have entry := fun k lo hi => lemma_table_field s 196608 65536 16 rc k lo hi hc
  exact lemma_findMetaRegion_found _ rc j mo (Nat.le_trans hc (Nat.le_of_eq hlen.symm))
    ((head 0 4 (by decide)).trans h.regi) ((head 8 12 (by decide)).trans h.rcount) h.rc_lt hj
    (fun k hk e => h.rbefore k hk ((entry k 0 16 (Nat.lt_trans hk hj) (by decide)).symm.trans e))
    ((entry j 0 16 hj (by decide)).trans h.rguid)
    ((congrArg leNat (entry j 16 24 hj (by decide))).trans h.roff)

theorem lemma_image_entry (s : Bytes) (rc j mo mc i ioff : Nat) (h : VhdxImage s rc j mo mc i ioff) :
    findMetaEntryB (sliceOf s mo 65536) = .ok (some (ioff, 8)) ∧
    entriesEnd (sliceOf s mo 65536) = 32 + mc * 32 ∧
    (sliceOf s mo 65536).take 8 = ascii "metadata" := by
  have hc : 32 + mc * 32 ≤ 65536 := by have := h.mc_lt; omega
  have hlen : 32 + mc * 32 ≤ (sliceOf s mo 65536).length := by
    have := h.hlen; have := h.ioff_ge; rw [lemma_sliceOf_length]; omega
  have hi := h.i_lt
  have head := fun a e he => lemma_slice_sliceOf s mo 65536 a e he
  have entry := fun k lo hi => lemma_table_field s mo 65536 32 mc k lo hi hc
  have hsig : slice (sliceOf s mo 65536) 0 8 = ascii "metadata" := (head 0 8 (by decide)).trans h.msig
  have hcount : leNat (slice (sliceOf s mo 65536) 10 12) = mc :=
    (congrArg leNat (head 10 12 (by decide))).trans h.mcount
  refine ⟨?_, by rw [lemma_entriesEnd, hcount], hsig⟩
  exact lemma_findMetaEntry_found _ mc i ioff 8 hlen hsig hcount
    (Nat.lt_succ_of_lt h.mc_lt) hi  -- `mc_lt` is one stricter than the walk's own bound 2048
    (fun k hk e => h.mbefore k hk ((entry k 0 16 (Nat.lt_trans hk hi) (by decide)).symm.trans e))
    ((entry i 0 16 hi (by decide)).trans h.mguid)
    ((congrArg leNat (entry i 16 20 hi (by decide))).trans h.mioff)
    ((congrArg leNat (entry i 20 24 hi (by decide))).trans h.milen)

end Oslo.Insp
