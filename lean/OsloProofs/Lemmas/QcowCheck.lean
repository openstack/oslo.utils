/-
The qcow2 safety checks as conditions on the header bytes (C02): `beNat` of a list by its head
byte, the two mask facts about one byte, the feature-bit loop as `beNat … < 16`, each of the three
checks on a state with a header region, and their conjunction `QcowSafe` (`lemma_qcow_state_accept`).
-/
import OsloProofs.Props.C02Gate
import OsloProofs.Lemmas.Qcow
import OsloProofs.Lemmas.DoBlocks
namespace Oslo.Insp

theorem lemma_beNat_acc (l : Bytes) : ∀ acc : Nat,
    l.foldl (fun acc x => acc * 256 + x.toNat) acc = acc * 256 ^ l.length + beNat l := by
  induction l with
  | nil => intro acc; simp [beNat]
  | cons b l ih =>
    intro acc
    rw [beNat, List.foldl_cons, List.foldl_cons, ih, ih (0 * 256 + b.toNat), List.length_cons, Nat.pow_succ,
      Nat.zero_mul, Nat.zero_add, Nat.add_mul, Nat.mul_assoc, Nat.mul_comm 256, Nat.add_assoc]

theorem lemma_beNat_cons (b : UInt8) (l : Bytes) : beNat (b :: l) = b.toNat * 256 ^ l.length + beNat l := by
  rw [beNat, List.foldl_cons, lemma_beNat_acc, Nat.zero_mul, Nat.zero_add]

theorem lemma_and255 (n : Nat) (h : n < 256) : n &&& 255 = n := by
  rw [show 255 = 2 ^ 8 - 1 from rfl, Nat.and_two_pow_sub_one_eq_mod, Nat.mod_eq_of_lt h]

theorem lemma_and15 (n : Nat) : n &&& 15 = n % 16 := Nat.and_two_pow_sub_one_eq_mod n 4

/-- the high nibble of a byte is clear iff the byte is below 16: `255 = 240 ||| 15` and `15 &&& 240 = 0` -/
theorem lemma_and240 (n : Nat) (h : n < 256) : n &&& 240 = 0 ↔ n < 16 := by
  constructor
  · intro h0
    have : n = (n &&& 240) ||| (n &&& 15) := by
      rw [← Nat.and_or_distrib_left]; exact (lemma_and255 n h).symm
    rw [h0, Nat.zero_or, lemma_and15] at this
    omega
  · intro h16
    have : n = n &&& 15 := by rw [lemma_and15, Nat.mod_eq_of_lt h16]
    rw [this, Nat.and_assoc]
    exact Nat.and_zero n

/-- the byte loop of check_unknown_features with `QCOW_MAX_BIT = 4`, from position `i` on: every byte
    above the lowest must be zero and the lowest must be below 16 -/
theorem lemma_feature_loop_from (len : Nat) (f : Bytes) : ∀ (i : Nat), i + f.length = len →
    (qcowFeatureLoop 4 len f i = true ↔ beNat f < 16) := by
  induction f with
  | nil => exact fun _ _ => ⟨fun _ => (by decide : beNat [] < 16), fun _ => rfl⟩
  | cons b rest ih =>
    intro i h
    have ih := ih (i + 1) (by rw [List.length_cons] at h; omega)
    have hnum : len - 1 - i = rest.length := by rw [List.length_cons] at h; omega
    have hb := b.toNat_lt
    rw [lemma_beNat_cons, qcowFeatureLoop]
    simp only [hnum, show 4 / 8 = 0 from rfl]
    cases rest with
    | nil =>
      simp only [List.length_nil, if_true, qcowFeatureLoop, beNat, List.foldl_nil]
      rw [show (255 - ((1 <<< (4 % 8)) - 1) % 256) = 240 from rfl]
      simp only [ne_eq, ite_not, Nat.pow_zero, Nat.mul_one, Nat.add_zero]
      rw [← lemma_and240 b.toNat hb]
      by_cases h0 : b.toNat &&& 240 = 0 <;> simp [h0]
    | cons b' rest' =>
      have hgt : (b' :: rest').length > 0 := Nat.succ_pos _
      simp only [Nat.ne_of_gt hgt, hgt, if_true, if_false]
      rw [show (255 - 0 % 256) = 255 from rfl, lemma_and255 _ hb]
      by_cases h0 : b.toNat = 0
      · simp only [h0, ne_eq, not_true_eq_false, if_false, ih, Nat.zero_mul, Nat.zero_add]
      · -- a non-zero byte above the lowest makes the value at least 256
        have h256 : 256 ≤ 256 ^ (b' :: rest').length := Nat.pow_le_pow_right (by decide : 256 > 0) hgt
        have : 256 ^ (b' :: rest').length ≤ b.toNat * 256 ^ (b' :: rest').length :=
          Nat.le_mul_of_pos_left _ (by omega)
        simp only [ne_eq, h0, not_false_eq_true, if_true, Bool.false_eq_true, false_iff]
        exact fun hlt => absurd (Nat.lt_of_le_of_lt (Nat.le_trans h256 (Nat.le_trans this (Nat.le_add_right _ _))) hlt)
          (by decide)

/-- the qcow2 acceptance condition on the header bytes `d = stream[0:512]`: magic at 0, version at 4,
    backing-file offset at 8 (`Gen.qcowBfOffset`); the incompatible-features word is the 8 bytes at 72
    (`Gen.qcowIFeatures`), big-endian, so the data-file bit (`Gen.qcowDatafileBit` = 3, tested by the
    code as mask `1 <<< (3 - 1 % 8)` = 4) sits in byte `72 + 8 - 1 - 3 / 8` = 79, and "no bit ≥
    `Gen.qcowMaxBit` = 4" is `< 16` -/
def QcowSafe (d : Bytes) : Prop :=
  d.length = 512 ∧ slice d 0 4 = qcowMagic ∧ beNat (slice d 8 16) = 0 ∧
  (∀ b, d[79]? = some b → b.toNat &&& 4 = 0) ∧
  (beNat (slice d 4 8) = 2 ∨ (beNat (slice d 4 8) = 3 ∧ beNat (slice d 72 80) < 16))

theorem lemma_qcow_backing (s : Insp) (h : Region) (hr : s.region "header" = .ok h) (hl : 16 ≤ h.data.length) :
    qcowCheckBackingFile s = .ok true ↔ beNat (slice h.data 8 16) = 0 := by
  have l : (slice h.data 8 (8 + 8)).length = 8 := lemma_slice_length_of_le _ 8 16 hl
  simp only [qcowCheckBackingFile, hr, Gen.qcowBfOffset, Gen.qcowBfOffsetLen, unpackBE, l, bind, Except.bind,
    pure, Except.pure, if_true, Except.ok.injEq, beq_iff_eq]

theorem lemma_qcow_datafile (s : Insp) (h : Region) (hr : s.region "header" = .ok h) (hl : 80 ≤ h.data.length) :
    qcowCheckDataFile s = .ok true ↔ ∀ b, h.data[79]? = some b → b.toNat &&& 4 = 0 := by
  have h79 : (slice h.data 72 (72 + 8))[8 - 1 - 3 / 8]? = some (h.data[79]'(by omega)) := by
    simp [slice, List.getElem?_drop]
  simp only [qcowCheckDataFile, hr, Gen.qcowIFeatures, Gen.qcowIFeaturesLen, Gen.qcowDatafileBit, h79, bind,
    Except.bind, pure, Except.pure, Except.ok.injEq, beq_iff_eq, List.getElem?_eq_getElem (show 79 < h.data.length by omega),
    Option.some.injEq, forall_eq']
  rfl

theorem lemma_qcow_features (s : Insp) (h : Region) (info : QcowInfo) (hr : s.region "header" = .ok h)
    (hi : s.qcowInfo = some info) (hl : 80 ≤ h.data.length) :
    qcowCheckUnknownFeatures s = .ok true ↔
      (info.version = 2 ∨ (info.version = 3 ∧ beNat (slice h.data 72 80) < 16)) := by
  have l : (slice h.data 72 (72 + 8)).length = 8 := lemma_slice_length_of_le _ 72 80 hl
  simp only [qcowCheckUnknownFeatures, hi, hr, Gen.qcowIFeatures, Gen.qcowIFeaturesLen, Gen.qcowMaxBit, l,
    Nat.lt_irrefl, if_false, bind, Except.bind, pure, Except.pure]
  by_cases h2 : info.version = 2
  · simp [h2]
  · by_cases h3 : info.version = 3
    · simp only [h3, show ¬ (3 : Nat) = 2 by decide, ne_eq, not_true_eq_false, if_false, Except.ok.injEq, false_or,
        true_and]
      exact lemma_feature_loop_from 8 _ 0 (by rw [l])
    · simp [h2, h3]

theorem lemma_runCheck_qcow2 (s : Insp) (hf : s.fmt = .qcow2) :
    runCheck s "backing_file" = .ofExcept (qcowCheckBackingFile s) ∧
    runCheck s "data_file" = .ofExcept (qcowCheckDataFile s) ∧
    runCheck s "unknown_features" = .ofExcept (qcowCheckUnknownFeatures s) :=
  ⟨by rw [runCheck]; exact hf, by rw [runCheck]; exact hf, by rw [runCheck]; exact hf⟩

theorem lemma_qcow_state_accept (s : Insp) (h : Region) (hfmt : s.fmt = .qcow2)
    (hreg : s.regions = [("header", h)]) (hE : h.isEnd = false) (hmin : h.minLength = none)
    (hL : h.length = 512) (hchk : s.checks = ["backing_file", "data_file", "unknown_features"])
    (hinfo : s.qcowInfo = qinfoR h) :
    safetyCheck s = .ok ↔ QcowSafe h.data := by
  have hr : s.region "header" = .ok h := by
    simp only [Insp.region, hreg, lookupR, if_true]
  have hc : h.complete = decide (512 = h.data.length) := by rw [lemma_complete_plain h hE hmin, hL]
  have hcomp : s.complete = decide (512 = h.data.length) := by
    simp only [Insp.complete, hreg, List.all_cons, List.all_nil, Bool.and_true, hc]
  rw [safety_ok_iff, hcomp, hchk, QcowSafe]
  generalize hd : h.data = d at *
  by_cases hl : d.length = 512
  · -- header complete: `qemu_header_info` is kept exactly when the magic matches
    have hi : s.qcowInfo = if slice d 0 4 = qcowMagic then
        some ⟨beNat (slice d 4 8), beNat (slice d 24 32)⟩ else none := by
      simp only [hinfo, qinfoR, hc, hd, hl, decide_true, Bool.true_and, beq_iff_eq,
        lemma_slice_slice0 d 32 24 32 (by decide), lemma_slice_slice0 d 32 0 4 (by decide),
        lemma_slice_slice0 d 32 4 8 (by decide)]
    have hfm : formatMatch s = .ok s.qcowInfo.isSome := by
      simp only [formatMatch, hfmt, hr, hc, hl, bind, Except.bind, pure, Except.pure,
        decide_true, Bool.not_true, Bool.false_eq_true, if_false]
    by_cases hm : slice d 0 4 = qcowMagic
    · rw [if_pos hm] at hi
      have hbf := lemma_qcow_backing s _ hr (show 16 ≤ h.data.length by rw [hd]; omega)
      have hdf := lemma_qcow_datafile s _ hr (show 80 ≤ h.data.length by rw [hd]; omega)
      have huf := lemma_qcow_features s _ _ hr hi (show 80 ≤ h.data.length by rw [hd]; omega)
      obtain ⟨r1, r2, r3⟩ := lemma_runCheck_qcow2 s hfmt
      simp only [hfm, hi, hl, hm, Option.isSome_some, decide_true, true_and, List.mem_cons, List.not_mem_nil,
        or_false, forall_eq_or_imp, forall_eq, r1, r2, r3, lemma_ofExcept_pass, hbf, hdf, huf, hd]
    · rw [if_neg hm] at hi
      simp [hfm, hi, hm]
  · have : ¬ 512 = d.length := fun h => hl h.symm
    simp [hl, this]
end Oslo.Insp
