/-
VMDK, sparse-header mode: the observers (`format_match`, `complete`, `virtual_size`, `safety_check`)
read off the explicit final states of VmdkStep.lean, in terms of pure functions of
(`desc_text`, `vmdktype`), the parsed header and the footer bytes.
-/
import OsloProofs.Lemmas.VmdkFeed
namespace Oslo.Insp

/-- `check_descriptor` as a function of (`desc_text`, `vmdktype`) -/
def checkDescOn (dt : Option Bytes) (vt : Bytes) : Bool :=
  match dt with
  | none => false
  | some t =>
    if t.isEmpty then false else
    if !sparseTypes.contains vt then false else
    let lines := (splitOn 0x0a t).map strip
    let kinds := lines.map classifyLine
    if kinds.contains .bad then false else
    let extents := lines.filter (fun l => classifyLine l == .extent)
    if extents.any (fun l => l.contains 0x2f) then false else
    !extents.isEmpty

theorem lemma_checkDesc_eq (s : Insp) : vmdkCheckDescriptor s = checkDescOn s.descText s.vmdkType := rfl

/-- `virtual_size` as a function of (`desc_text`, `vmdktype`) and the header's capacity field -/
def vsizeOn (dt : Option Bytes) (vt : Bytes) (sectors : Nat) : Int :=
  match dt with
  | none => 0
  | some t => if t.isEmpty then 0 else if !sparseTypes.contains vt then 0 else Int.ofNat (sectors * 512)

theorem lemma_checkDescOn_fnf (dt : Option Bytes) : checkDescOn dt formatNotFound = false := by
  unfold checkDescOn
  cases dt with
  | none => rfl
  | some t =>
    dsimp only
    rw [lemma_fnf_not_sparse]
    split <;> rfl

theorem lemma_vsizeOn_fnf (dt : Option Bytes) (n : Nat) : vsizeOn dt formatNotFound n = 0 := by
  unfold vsizeOn
  cases dt with
  | none => rfl
  | some t =>
    dsimp only
    rw [lemma_fnf_not_sparse]
    split <;> rfl

theorem lemma_vmdk_vsize_fnf (s : Insp) (hf : s.fmt = .vmdk) (hv : s.vmdkType = formatNotFound) :
    virtualSize s = .ok 0 := by
  unfold virtualSize
  rw [hf]
  simp only [hv, lemma_fnf_not_sparse]
  cases s.descText with
  | none => rfl
  | some t =>
    simp only
    split <;> rfl

/-- `check_footer` after the header has been parsed, as a function of the footer bytes -/
def footerCheckH (hh : SparseHeader) (fdata : Bytes) : Except Err Bool := do
  let fh ← parseSparseHeader fdata 512
  if hh.sig ≠ fh.sig then return false
  if hh.ver ≠ fh.ver then return false
  if hh.descSec ≠ fh.descSec || hh.descNum ≠ fh.descNum then return false
  if fh.gdOffset = Gen.vmdkGdAtEnd then return false
  let m1 := slice fdata 0 512
  if m1.length ≠ 512 then throw .struct
  if leNat (slice m1 8 12) ≠ 0 || leNat (slice m1 12 16) ≠ Gen.vmdkMarkerFooter
      || slice m1 16 512 ≠ zeros 496 then return false
  let m2 := lastN 512 fdata
  if m2.length ≠ 512 then throw .struct
  if leNat (slice m2 0 8) ≠ 0 || leNat (slice m2 8 12) ≠ 0
      || leNat (slice m2 12 16) ≠ Gen.vmdkMarkerEos || slice m2 16 512 ≠ zeros 496 then return false
  return true

theorem lemma_checkFooter_eq (s : Insp) (h f : Region) (hh : SparseHeader)
    (h1 : s.region "header" = .ok h) (h2 : s.region "footer" = .ok f)
    (h3 : parseSparseHeader h.data 0 = .ok hh) :
    vmdkCheckFooter s = footerCheckH hh f.data := by
  unfold vmdkCheckFooter footerCheckH
  simp only [h1, h2, h3, bind, Except.bind]


/-- the safety-check outcome as a function of completeness, the descriptor check and the footer check -/
def safetyOn (complete foot cd : Bool) (cf : CheckRes) : Safety :=
  if !complete then .refused else
  let fails := (if cd then [] else ["descriptor"]) ++ (if foot && cf != .pass then ["footer"] else [])
  if fails.isEmpty then .ok else .failed fails


variable {foot : Bool} {n : Nat} {hd dd d0 : Bytes} {dl fo : Nat} {fd : Bytes} {fin : Bool} {dt : Option Bytes}
  {vt : Bytes} {H : SparseHeader}

theorem lemma_post_finish :
    (vPost foot n hd dd dl fo fd false dt vt).finish = vPost foot n hd dd dl fo fd true dt vt := by
  cases foot <;> rfl

theorem lemma_err_finish :
    (vErr foot n hd d0 false dt).finish = vErr foot n hd d0 true dt := by
  cases foot <;> rfl

theorem lemma_vmdk_parse_fields {hd : Bytes} {H : SparseHeader} (hp : parseSparseHeader hd 0 = .ok H) :
    H.sig = hd.take 4 ∧ H.sectors = leNat (slice hd 12 20) ∧ 64 ≤ hd.length := by
  unfold parseSparseHeader at hp
  simp only [Gen.vmdkMinSparseHeader, Nat.zero_add] at hp
  split at hp
  · simp at hp
  · rename_i hl
    simp only [Except.ok.injEq] at hp
    subst hp
    have hl' : 64 ≤ hd.length := by
      simp only [slice, List.drop_zero, List.length_take, ne_eq, Decidable.not_not] at hl
      omega
    refine ⟨?_, ?_, hl'⟩
    · simp [slice, List.take_take]
    · simp only [slice, List.drop_zero, List.take_take]
      congr 2

theorem lemma_vmdk_startsWith_kdmv {hd : Bytes} {H : SparseHeader} (hp : parseSparseHeader hd 0 = .ok H)
    (hsig : H.sig = kdmv) : startsWith hd kdmv = true := by
  have := (lemma_vmdk_parse_fields hp).1
  unfold startsWith
  rw [lemma_kdmv_length, ← this, hsig]
  simp

theorem lemma_post_formatMatch :
    formatMatch (vPost foot n hd dd dl fo fd fin dt vt) = .ok (startsWith hd kdmv) := by
  cases foot <;> rfl

theorem lemma_post_complete (hlen : 64 ≤ hd.length) :
    (vPost foot n hd dd dl fo fd true dt vt).complete =
      ((!foot || decide (1536 = fd.length)) && decide (dl = dd.length)) := by
  have hfc : (vFootR fo fd true).complete = decide (1536 = fd.length) := by
    show (decide (1536 = fd.length) && true) = _
    rw [Bool.and_true]
  cases foot <;>
  simp [Insp.complete, vPost, lemma_vmdk_hdr_complete hd hlen, lemma_vmdk_desc_complete, hfc]

theorem lemma_post_vsize (hp : parseSparseHeader hd 0 = .ok H) :
    virtualSize (vPost foot n hd dd dl fo fd fin dt vt) = .ok (vsizeOn dt vt H.sectors) := by
  obtain ⟨_, hsec, hlen⟩ := lemma_vmdk_parse_fields hp
  have hl : lookupR "header" (vPost foot n hd dd dl fo fd fin dt vt).regions = some (vHdrR hd) := by
    cases foot <;> rfl
  have h44 : (slice hd 0 44).length = 44 := by simp [slice]; omega
  have hs : slice (slice hd 0 44) 12 20 = slice hd 12 20 := by
    simp only [slice, List.drop_zero, List.take_take]
    congr 2
  have hf : (vPost foot n hd dd dl fo fd fin dt vt).fmt = .vmdk := rfl
  have hdt : (vPost foot n hd dd dl fo fd fin dt vt).descText = dt := rfl
  have hvt : (vPost foot n hd dd dl fo fd fin dt vt).vmdkType = vt := rfl
  unfold virtualSize vsizeOn
  rw [hf]
  simp only [hdt, hvt, hl]
  cases dt with
  | none => rfl
  | some t =>
    simp only
    split
    · rfl
    · split
      · rfl
      · have : (vHdrR hd).data = hd := rfl
        simp only [this, h44, ne_eq, not_true_eq_false, if_false, hs, hsec]

theorem lemma_post_safety (hp : parseSparseHeader hd 0 = .ok H) (hsig : H.sig = kdmv) :
    safetyCheck (vPost foot n hd dd dl fo fd true dt vt) =
      safetyOn (vPost foot n hd dd dl fo fd true dt vt).complete foot (checkDescOn dt vt)
        (CheckRes.ofExcept (footerCheckH H fd)) := by
  unfold safetyCheck safetyOn
  rw [lemma_post_formatMatch, lemma_vmdk_startsWith_kdmv hp hsig]
  split
  · rfl
  · simp only
    have hcd : runCheck (vPost foot n hd dd dl fo fd true dt vt) "descriptor" =
        CheckRes.ofExcept (.ok (checkDescOn dt vt)) := by
      cases foot <;> rfl
    cases foot
    · have hchk : (vPost false n hd dd dl fo fd true dt vt).checks = ["descriptor"] := rfl
      rw [hchk]
      simp only [List.filter_cons, List.filter_nil, hcd, Bool.false_and, Bool.false_eq_true, if_false,
        List.append_nil]
      cases checkDescOn dt vt <;> rfl
    · have hchk : (vPost true n hd dd dl fo fd true dt vt).checks = ["descriptor", "footer"] := rfl
      have hcf : runCheck (vPost true n hd dd dl fo fd true dt vt) "footer" =
          CheckRes.ofExcept (footerCheckH H fd) := by
        have := lemma_checkFooter_eq (vPost true n hd dd dl fo fd true dt vt) (vHdrR hd) (vFootR fo fd true) H
          rfl rfl hp
        show CheckRes.ofExcept (vmdkCheckFooter _) = _
        rw [this]
        rfl
      rw [hchk]
      simp only [List.filter_cons, List.filter_nil, hcd, hcf, Bool.true_and]
      cases checkDescOn dt vt <;> cases CheckRes.ofExcept (footerCheckH H fd) <;> rfl


theorem lemma_err_formatMatch :
    formatMatch (vErr foot n hd d0 fin dt) = .ok (startsWith hd kdmv) := by
  cases foot <;> rfl

theorem lemma_err_complete (hlen : 64 ≤ hd.length) (hc : (vDesc0R d0).complete = true) :
    (vErr foot n hd d0 true dt).complete = !foot := by
  have hfc : (vFootR 1536 [] true).complete = false := by decide
  cases foot <;>
  simp [Insp.complete, vErr, lemma_vmdk_hdr_complete hd hlen, hc, hfc]

theorem lemma_err_vsize :
    virtualSize (vErr foot n hd d0 fin dt) = .ok 0 :=
  lemma_vmdk_vsize_fnf _ rfl rfl

theorem lemma_err_safety (hp : parseSparseHeader hd 0 = .ok H) (hsig : H.sig = kdmv) (hc : (vDesc0R d0).complete = true) :
    safetyCheck (vErr foot n hd d0 true dt) = if foot then .refused else .failed ["descriptor"] := by
  have hlen := (lemma_vmdk_parse_fields hp).2.2
  unfold safetyCheck
  rw [lemma_err_complete hlen hc, lemma_err_formatMatch, lemma_vmdk_startsWith_kdmv hp hsig]
  cases foot
  · have hchk : (vErr false n hd d0 true dt).checks = ["descriptor"] := rfl
    have hcd : runCheck (vErr false n hd d0 true dt) "descriptor" =
        CheckRes.ofExcept (.ok (checkDescOn dt formatNotFound)) := rfl
    simp only [Bool.not_false, Bool.not_true, Bool.false_eq_true, if_false, hchk, List.filter_cons, List.filter_nil, hcd,
      lemma_checkDescOn_fnf]
    rfl
  · rfl

end Oslo.Insp
