/-
VHDX: one `eat_chunk` computed exactly on the three shapes a VHDX inspector's region table can
have between chunks (ident+header / +metadata / +metadata(stopped)+vds), every region holding the
stream slice at its offset.
-/
import OsloProofs.Lemmas.VhdxBytes
import OsloProofs.Lemmas.Engine
namespace Oslo.Insp

/-- a plain region (no `min_length`) that holds exactly the slice of the prefix `p` at its offsets -/
def plainR (rid off len : Nat) (p : Bytes) : Region :=
  { rid := rid, offset := off, length := len, minLength := none, data := sliceOf p off len,
    isEnd := false, endDone := false }

/-- a region as `new_region` creates it -/
def freshR (rid off len : Nat) : Region :=
  { rid := rid, offset := off, length := len, minLength := none, data := [], isEnd := false, endDone := false }

theorem lemma_plainR_complete (rid off len : Nat) (p : Bytes) :
    (plainR rid off len p).complete = decide ((sliceOf p off len).length = len) :=
  decide_eq_decide.2 eq_comm

theorem lemma_plainR_complete_of_le (rid off len : Nat) (p : Bytes) (h : off + len ≤ p.length) :
    (plainR rid off len p).complete = true := by
  rw [lemma_plainR_complete, lemma_sliceOf_length, Nat.min_eq_left (Nat.le_sub_of_add_le' h)]
  exact decide_eq_true rfl

theorem lemma_step_plainR (rid off len : Nat) (p c : Bytes) :
    stepRegion c (p ++ c).length (plainR rid off len p) = plainR rid off len (p ++ c) := by
  rw [List.length_append]
  unfold stepRegion
  cases hc : (plainR rid off len p).complete
  · have := lemma_capture_step (plainR rid off len p) p c rfl rfl
    simp only [plainR, Bool.not_false, Bool.or_true, if_true] at this ⊢
    exact this
  · -- a complete region is skipped, and already holds all `len` bytes of the slice
    have hl : (sliceOf p off len).length = len := of_decide_eq_true (lemma_plainR_complete .. ▸ hc)
    have : sliceOf p off len = sliceOf (p ++ c) off len :=
      (lemma_sliceOf_append_of_full p c off len hl.symm).symm
    simp only [plainR, Bool.not_true, Bool.or_self, Bool.false_eq_true, if_false, this]

theorem lemma_fresh_plainR (rid off len : Nat) (p : Bytes) (h : p.length ≤ off) :
    freshR rid off len = plainR rid off len p := by
  simp only [freshR, plainR, sliceOf, List.drop_eq_nil_of_le h, List.take_nil]

/-- stopping a region at what it holds -/
theorem lemma_trunc_plainR (rid off len : Nat) (p : Bytes) :
    { plainR rid off len p with length := (plainR rid off len p).data.length } =
      plainR rid off (sliceOf p off len).length p := by
  simp only [plainR, sliceOf, Region.mk.injEq, true_and, and_true]
  rw [List.take_eq_take_iff, List.length_take, Nat.min_assoc, Nat.min_self]

/-- a VHDX inspector that has not finished -/
def vst (t : Nat) (regs : List (String × Region)) (k : Nat) : Insp :=
  { fmt := .vhdx, total := t, regions := regs, nextRid := k, finished := false, checks := ["null"],
    qcowInfo := none, descText := none, vmdkType := formatNotFound }

theorem lemma_postProcess_vhdx (s : Insp) (h : s.fmt = .vhdx) : postProcess s = vhdxPostProcess s := by
  unfold postProcess; rw [h]

theorem lemma_eatChunk_vhdx (t k : Nat) (regs : List (String × Region)) (c : Bytes) :
    eatChunk (vst t regs k) c =
      match vhdxPostProcess (vst (t + c.length) (regs.map (fun p => (p.1, stepRegion c (t + c.length) p.2))) k) with
      | (s3, some e) => (s3, some e)
      | (s3, none) => followUp 8 s3 c (regs.map (·.2.rid)) := by
  unfold eatChunk
  simp only [vst, Bool.false_eq_true, if_false]
  rw [lemma_captureAll_nil]
  simp only
  rw [lemma_postProcess_vhdx _ rfl]
  have f3 := lemma_vhdxPP_fmt (vst (t + c.length) (regs.map (fun p => (p.1, stepRegion c (t + c.length) p.2))) k)
  simp only [vst] at f3
  generalize vhdxPostProcess _ = r at f3 ⊢
  obtain ⟨s3, e3⟩ := r
  cases e3 with
  | some e => rfl
  | none =>
    simp only at f3 ⊢
    have f4 := lemma_followUp_fmt 8 s3 c (regs.map (·.2.rid))
    generalize followUp 8 s3 c (regs.map (·.2.rid)) = r4 at f4 ⊢
    obtain ⟨s4, e4⟩ := r4
    cases e4 with
    | some e => rfl
    | none =>
      have hf : s4.fmt = .vhdx := f4.trans f3
      exact lemma_runCallbacks_none _ s4 (by rw [hf]; decide) (by rw [hf]; decide)

/-! ### post-processing: the three cases, by which of `metadata` and `vds` exist -/

theorem lemma_findMetaRegion_eq (s : Insp) (h : Region) (hh : lookupR "header" s.regions = some h) :
    vhdxFindMetaRegion s = findMetaRegionB h.data := by
  unfold vhdxFindMetaRegion findMetaRegionB Insp.region
  rw [hh]
  rfl

theorem lemma_findMetaEntry_eq (s : Insp) (m : Region) (hm : lookupR "metadata" s.regions = some m) :
    vhdxFindMetaEntry s = findMetaEntryB m.data := by
  unfold vhdxFindMetaEntry findMetaEntryB Insp.region
  rw [hm]
  rfl

theorem lemma_pp_A (t k : Nat) (ri rh : Region) :
    vhdxPostProcess (vst t [("ident", ri), ("header", rh)] k) =
      if rh.complete then
        match findMetaRegionB rh.data with
        | .error e => (vst t [("ident", ri), ("header", rh)] k, some e)
        | .ok none => (vst t [("ident", ri), ("header", rh)] k, none)
        | .ok (some off) =>
          (vst t [("ident", ri), ("header", rh), ("metadata", freshR k off 65536)] (k + 1), none)
      else (vst t [("ident", ri), ("header", rh)] k, none) := by
  unfold vhdxPostProcess
  rw [lemma_findMetaRegion_eq _ rh (by simp [vst, lookupR])]
  cases hc : rh.complete
  · simp [hc, Insp.region, Insp.hasRegion, vst, lookupR]
  · cases findMetaRegionB rh.data with
    | error e => simp [hc, Insp.region, Insp.hasRegion, vst, lookupR]
    | ok o =>
      cases o with
      | none => simp [hc, Insp.region, Insp.hasRegion, vst, lookupR]
      | some off => simp [hc, Insp.region, Insp.newRegion, Insp.hasRegion, lookupR, freshR, vst]

theorem lemma_pp_M (t k : Nat) (ri rh rm : Region) :
    vhdxPostProcess (vst t [("ident", ri), ("header", rh), ("metadata", rm)] k) =
      match findMetaEntryB rm.data with
      | .error e => (vst t [("ident", ri), ("header", rh), ("metadata", rm)] k, some e)
      | .ok none => (vst t [("ident", ri), ("header", rh), ("metadata", rm)] k, none)
      | .ok (some (ioff, ilen)) =>
        (vst t [("ident", ri), ("header", rh), ("metadata", { rm with length := rm.data.length }),
                ("vds", freshR k (rm.offset + ioff) (min ilen 65536))] (k + 1), none) := by
  unfold vhdxPostProcess
  rw [lemma_findMetaEntry_eq _ rm (by simp [vst, lookupR])]
  cases findMetaEntryB rm.data with
  | error e => simp [Insp.region, Insp.hasRegion, vst, lookupR]
  | ok o =>
    cases o with
    | none => simp [Insp.region, Insp.hasRegion, vst, lookupR]
    | some x =>
      simp [Insp.region, vhdxAddVds, Insp.updRegion, Insp.newRegion, Insp.hasRegion, lookupR, freshR,
        Gen.vhdxMetaTableMax, vst]

theorem lemma_pp_V (t k : Nat) (ri rh rm rv : Region) :
    vhdxPostProcess (vst t [("ident", ri), ("header", rh), ("metadata", rm), ("vds", rv)] k) =
      (vst t [("ident", ri), ("header", rh), ("metadata", rm), ("vds", rv)] k, none) := by
  simp [vhdxPostProcess, Insp.region, Insp.hasRegion, vst, lookupR]

/-- one round of the loop of a VHDX inspector in which exactly the region `n` is new: it alone is
    presented the chunk, then `_post_process` runs again -/
theorem lemma_followUp_round (fuel : Nat) (s : Insp) (c : Bytes) (seen : List Nat) (n : String) (r : Region)
    (hf : s.fmt = .vhdx) (h : s.regions.filter (fun p => !seen.contains p.2.rid) = [(n, r)]) :
    followUp (fuel + 1) s c seen =
      match vhdxPostProcess (s.captureAll c [n]) with
      | (s2, some e) => (s2, some e)
      | (s2, none) => followUp fuel s2 c (seen ++ [r.rid]) := by
  rw [followUp]
  simp only [h, List.isEmpty_cons, Bool.false_eq_true, if_false, List.map_cons, List.map_nil, postProcess,
    show (s.captureAll c [n]).fmt = .vhdx from hf]
  rfl

theorem lemma_captureAll_only (s : Insp) (c : Bytes) (only : List String) (hne : only.isEmpty = false) :
    s.captureAll c only = { s with regions := s.regions.map (fun p =>
      (p.1, if only.contains p.1 then stepRegion c s.total p.2 else p.2)) } := by
  unfold Insp.captureAll stepRegion
  congr 1
  apply List.map_congr_left
  intro p _
  rw [hne, Bool.false_or]
  cases only.contains p.1 <;> simp
  split <;> rfl

theorem lemma_capture_only_meta (t k : Nat) (a b m : Region) (c : Bytes) :
    (vst t [("ident", a), ("header", b), ("metadata", m)] k).captureAll c ["metadata"] =
      vst t [("ident", a), ("header", b), ("metadata", stepRegion c t m)] k := by
  rw [lemma_captureAll_only _ _ _ rfl]
  simp [vst]

theorem lemma_capture_only_vds (t k : Nat) (a b m v : Region) (c : Bytes) :
    (vst t [("ident", a), ("header", b), ("metadata", m), ("vds", v)] k).captureAll c ["vds"] =
      vst t [("ident", a), ("header", b), ("metadata", m), ("vds", stepRegion c t v)] k := by
  rw [lemma_captureAll_only _ _ _ rfl]
  simp [vst]

/-! ### the three shapes between chunks

The regions of `Gen.vhdx_regions` (`lemma_init_vhdx`): `ident` at 0 of length 32, `header` at 196608 = 192 KiB
of length 65536, hence complete from 262144 = 256 KiB on.  `stA` is the initial shape, `stM` has the
`metadata` region (65536 = `Gen.vhdxMetaTableMax` bytes at the offset the region table names), `stV` has it
stopped at length `L` and the `vds` region of the size item. -/

def stA (q : Bytes) : Insp :=
  vst q.length [("ident", plainR 0 0 32 q), ("header", plainR 1 196608 65536 q)] 2

def stM (q : Bytes) (mo : Nat) : Insp :=
  vst q.length [("ident", plainR 0 0 32 q), ("header", plainR 1 196608 65536 q),
                ("metadata", plainR 2 mo 65536 q)] 3

def stV (q : Bytes) (mo L vo vl : Nat) : Insp :=
  vst q.length [("ident", plainR 0 0 32 q), ("header", plainR 1 196608 65536 q),
                ("metadata", plainR 2 mo L q), ("vds", plainR 3 vo vl q)] 4

/-- what happens once the metadata region has been presented the current chunk: the entry walk, and
    if it finds the size item, the creation and first capture of the `vds` region -/
def metaTail (fuel : Nat) (q c : Bytes) (mo : Nat) : Insp × Option Err :=
  match vhdxPostProcess (stM q mo) with
  | (s2, some e) => (s2, some e)
  | (s2, none) => followUp fuel s2 c [0, 1, 2]

theorem lemma_metaTail_err (fuel : Nat) (q c : Bytes) (mo : Nat) (e : Err)
    (h : findMetaEntryB (sliceOf q mo 65536) = .error e) : metaTail fuel q c mo = (stM q mo, some e) := by
  have hd : (plainR 2 mo 65536 q).data = sliceOf q mo 65536 := rfl
  unfold metaTail stM
  rw [lemma_pp_M, hd, h]

theorem lemma_metaTail_none (fuel : Nat) (q c : Bytes) (mo : Nat)
    (h : findMetaEntryB (sliceOf q mo 65536) = .ok none) : metaTail fuel q c mo = (stM q mo, none) := by
  have hd : (plainR 2 mo 65536 q).data = sliceOf q mo 65536 := rfl
  unfold metaTail stM
  rw [lemma_pp_M, hd, h]
  exact lemma_followUp_none _ _ _ _ (of_decide_eq_true rfl)

theorem lemma_metaTail_some (n : Nat) (p c : Bytes) (mo ioff ilen : Nat)
    (h : findMetaEntryB (sliceOf (p ++ c) mo 65536) = .ok (some (ioff, ilen))) (hf : p.length ≤ mo + ioff) :
    metaTail (n + 2) (p ++ c) c mo =
      (stV (p ++ c) mo (sliceOf (p ++ c) mo 65536).length (mo + ioff) (min ilen 65536), none) := by
  have hd : (plainR 2 mo 65536 (p ++ c)).data = sliceOf (p ++ c) mo 65536 := rfl
  have ho : (plainR 2 mo 65536 (p ++ c)).offset = mo := rfl
  unfold metaTail stM
  rw [lemma_pp_M, hd, h]
  simp only
  rw [← hd, lemma_trunc_plainR, ho, lemma_fresh_plainR 3 (mo + ioff) (min ilen 65536) p hf,
    lemma_followUp_round _ _ _ _ "vds" (plainR 3 (mo + ioff) (min ilen 65536) p) rfl rfl,
    lemma_capture_only_vds, lemma_step_plainR, lemma_pp_V]
  exact lemma_followUp_none _ _ _ _ (of_decide_eq_true rfl)

theorem lemma_header_complete (q : Bytes) :
    (plainR 1 196608 65536 q).complete = decide (262144 ≤ q.length) := by
  by_cases h : 262144 ≤ q.length
  · rw [lemma_plainR_complete_of_le _ _ _ _ h, decide_eq_true h]
  · rw [decide_eq_false h, lemma_plainR_complete, decide_eq_false]
    intro hc
    have := lemma_sliceOf_end q 196608 65536 (by rw [hc]; decide)
    rw [hc] at this
    exact h this

/-- from the initial shape: nothing happens before the header region is complete; then the region
    table is walked, and a metadata region it names — at or after the end of the bytes streamed before
    this chunk — is created and presented the chunk -/
theorem lemma_eat_A (p c : Bytes)
    (hfw : ∀ mo, 262144 ≤ (p ++ c).length → findMetaRegionB (sliceOf (p ++ c) 196608 65536) = .ok (some mo) →
      p.length ≤ mo) :
    eatChunk (stA p) c =
      if 262144 ≤ (p ++ c).length then
        match findMetaRegionB (sliceOf (p ++ c) 196608 65536) with
        | .error e => (stA (p ++ c), some e)
        | .ok none => (stA (p ++ c), none)
        | .ok (some mo) => metaTail 7 (p ++ c) c mo
      else (stA (p ++ c), none) := by
  have hd : (plainR 1 196608 65536 (p ++ c)).data = sliceOf (p ++ c) 196608 65536 := rfl
  unfold stA
  rw [lemma_eatChunk_vhdx, ← List.length_append]
  simp only [List.map_cons, List.map_nil, lemma_step_plainR]
  rw [lemma_pp_A, lemma_header_complete, hd]
  by_cases hl : 262144 ≤ (p ++ c).length
  · simp only [hl, decide_true, if_true]
    cases hr : findMetaRegionB (sliceOf (p ++ c) 196608 65536) with
    | error e => rfl
    | ok o =>
      cases o with
      | none => exact lemma_followUp_none _ _ _ _ (of_decide_eq_true rfl)
      | some mo =>
        dsimp only
        rw [lemma_fresh_plainR 2 mo 65536 p (hfw mo hl hr),
          lemma_followUp_round _ _ _ _ "metadata" (plainR 2 mo 65536 p) rfl rfl,
          lemma_capture_only_meta, lemma_step_plainR]
        rfl
  · simp only [hl, decide_false, Bool.false_eq_true, if_false]
    exact lemma_followUp_none _ _ _ _ (of_decide_eq_true rfl)

theorem lemma_eat_M (p c : Bytes) (mo : Nat) :
    eatChunk (stM p mo) c = metaTail 8 (p ++ c) c mo := by
  unfold stM
  rw [lemma_eatChunk_vhdx, ← List.length_append]
  simp only [List.map_cons, List.map_nil, lemma_step_plainR]
  rfl

theorem lemma_eat_V (p c : Bytes) (mo L vo vl : Nat) :
    eatChunk (stV p mo L vo vl) c = (stV (p ++ c) mo L vo vl, none) := by
  unfold stV
  rw [lemma_eatChunk_vhdx, ← List.length_append]
  simp only [List.map_cons, List.map_nil, lemma_step_plainR]
  rw [lemma_pp_V]
  exact lemma_followUp_none _ _ _ _ (of_decide_eq_true rfl)

end Oslo.Insp
