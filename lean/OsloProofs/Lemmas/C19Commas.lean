/-
Lemmas for C19 about the hand parser of the split_by_commas grammar (OsloModel/Split.lean, part 4):
the vocabulary of the property statements; each scanner on the inputs those statements speak of
(encoded items, an unclosed quote, stray text); `parseItems` on items joined by commas; `expandTabs`.
-/
import OsloModel.Split
namespace Oslo.Split

/-! ### vocabulary of the statements -/

/-- characters an item may contain for the round trip: anything but TAB (expanded to spaces by
    pyparsing before parsing), LF and CR (not allowed inside a quoted string) -/
def okChar (c : Char) : Bool := c != '\t' && c != '\n' && c != '\r'

def okItem (item : List Char) : Bool := item.all okChar

/-- printable ASCII, the domain named in the property -/
def printable (c : Char) : Bool := 0x20 ≤ c.toNat && c.toNat ≤ 0x7e

/-- `e` is an admissible encoding of `item`: quoted with escapes, or verbatim when the item is a
    non-empty run of word characters -/
def IsEnc (item e : List Char) : Prop :=
  e = quote item ∨ (e = item ∧ item ≠ [] ∧ ∀ c ∈ item, isWordChar c = true)

/-- every item followed by a comma: what precedes a later item in a joined list -/
def prefixStr : List (List Char) → List Char
  | [] => []
  | i :: is => quoteIfNeeded i ++ ',' :: prefixStr is

/-- reading left to right with `\` taking the next character along, no bare `"` occurs -/
def noClosingQuote : List Char → Bool
  | [] => true
  | [c] => c != '"'
  | c :: e :: r =>
    if c = '"' then false
    else if c = '\\' then noClosingQuote r
    else noClosingQuote (e :: r)

/-- the first character, if there is one, is not in the class `p`: a scanner for `p` stops here -/
def HeadNot (p : Char → Bool) (s : List Char) : Prop := ∀ c, s.head? = some c → p c = false

theorem HeadNot.nil {p : Char → Bool} : HeadNot p [] := fun _ h => nomatch h

theorem HeadNot.cons {p : Char → Bool} {c : Char} {r : List Char} (h : p c = false) :
    HeadNot p (c :: r) := fun _ hc => Option.some.inj hc ▸ h

theorem ne_of_pred {p : Char → Bool} {c d : Char} (h : p c = true) (hd : p d = false) : c ≠ d :=
  fun hh => by rw [hh, hd] at h; cases h

theorem okChar_of (p : Char → Bool) (h1 : p '\t' = false) (h2 : p '\n' = false) (h3 : p '\r' = false)
    (c : Char) (h : p c = true) : okChar c = true := by
  simp [okChar, ne_of_pred h h1, ne_of_pred h h2, ne_of_pred h h3]

theorem printable_okChar (c : Char) (h : printable c = true) : okChar c = true :=
  okChar_of printable (by decide) (by decide) (by decide) c h

theorem word_okChar (c : Char) (h : isWordChar c = true) : okChar c = true :=
  okChar_of isWordChar (by decide) (by decide) (by decide) c h

theorem isWs_not_word (c : Char) (h : isWs c = true) : isWordChar c = false := by
  simp only [isWs, Bool.or_eq_true, decide_eq_true_eq] at h
  rcases h with ((h | h) | h) | h <;> subst h <;> decide

theorem word_not_ws (c : Char) (h : isWordChar c = true) : isWs c = false := by
  cases hw : isWs c with
  | false => rfl
  | true => rw [isWs_not_word c hw] at h; cases h

theorem word_ne_quote (c : Char) (h : isWordChar c = true) : c ≠ '"' := ne_of_pred h (by decide)

theorem word_ne_comma (c : Char) (h : isWordChar c = true) : c ≠ ',' := ne_of_pred h (by decide)

theorem headNot_word_of_ws (ws : List Char) (hws : ∀ c ∈ ws, isWs c = true) :
    HeadNot isWordChar ws := by
  cases ws with
  | nil => exact .nil
  | cons a t => exact .cons (isWs_not_word a (hws a (List.mem_cons_self ..)))

theorem okItem_notab (item : List Char) (h : okItem item = true) : '\t' ∉ item :=
  fun hh => absurd (List.all_eq_true.mp h _ hh) (by decide)

theorem okItem_char (item : List Char) (h : okItem item = true) (c : Char) (hc : c ∈ item) :
    c ≠ '\n' ∧ c ≠ '\r' := by
  have := List.all_eq_true.mp h c hc
  simp only [okChar, Bool.and_eq_true, bne_iff_ne, ne_eq] at this
  exact ⟨this.1.2, this.2⟩

theorem escape_mem (item : List Char) (c : Char) (h : c ∈ escape item) : c ∈ item ∨ c = '\\' := by
  induction item with
  | nil => cases h
  | cons a r ih =>
    rw [escape] at h
    split at h <;> simp only [List.mem_cons] at h ⊢
    · rcases h with h | h | h
      · exact .inr h
      · exact .inl (.inl h)
      · exact (ih h).imp .inr id
    · rcases h with h | h
      · exact .inl (.inl h)
      · exact (ih h).imp .inr id

theorem escape_length (item : List Char) : item.length ≤ (escape item).length := by
  induction item with
  | nil => exact Nat.le_refl _
  | cons a r ih =>
    rw [escape]; split
    · exact Nat.le_succ_of_le (Nat.succ_le_succ ih)
    · exact Nat.succ_le_succ ih

theorem quote_notab (item : List Char) (h : '\t' ∉ item) : '\t' ∉ quote item := by
  intro hh
  simp only [quote, List.mem_cons, List.mem_append, List.mem_nil_iff, or_false] at hh
  rcases hh with hh | hh | hh
  · cases hh
  · exact (escape_mem _ _ hh).elim h (by decide)
  · cases hh

theorem isEnc_notab (item e : List Char) (he : IsEnc item e) (hok : okItem item = true) : '\t' ∉ e := by
  rcases he with rfl | ⟨rfl, -, -⟩
  · exact quote_notab item (okItem_notab item hok)
  · exact okItem_notab e hok

theorem isEnc_quoteIfNeeded (item : List Char) : IsEnc item (quoteIfNeeded item) := by
  unfold quoteIfNeeded
  split
  · exact .inl rfl
  · rename_i h
    simp only [needsQuote, Bool.or_eq_true, List.isEmpty_iff, List.any_eq_true, not_or, not_exists,
      not_and, Bool.not_eq_true, Bool.not_eq_false'] at h
    exact .inr ⟨rfl, h.1, fun c hc => (h.2 c hc).1⟩

theorem enc_head_not_ws (item e : List Char) (he : IsEnc item e) (tail : List Char) :
    HeadNot isWs (e ++ tail) := by
  rcases he with rfl | ⟨rfl, hne, hw⟩
  · exact .cons (by decide)
  · cases e with
    | nil => exact absurd rfl hne
    | cons a t => exact .cons (word_not_ws a (hw a (List.mem_cons_self ..)))

theorem skipWs_of_head (s : List Char) (h : HeadNot isWs s) : skipWs s = s := by
  cases s with
  | nil => rfl
  | cons c r => rw [skipWs, h c rfl]; rfl

theorem skipWs_append (w s : List Char) (hw : ∀ c ∈ w, isWs c = true) (h : HeadNot isWs s) :
    skipWs (w ++ s) = s := by
  induction w with
  | nil => exact skipWs_of_head s h
  | cons a r ih =>
    rw [List.cons_append, skipWs, if_pos (hw a (List.mem_cons_self ..))]
    exact ih (fun c hc => hw c (List.mem_cons_of_mem _ hc))

theorem skipWs_length_le (s : List Char) : (skipWs s).length ≤ s.length := by
  induction s with
  | nil => exact Nat.le_refl _
  | cons c r ih =>
    rw [skipWs]; split
    · exact Nat.le_succ_of_le ih
    · exact Nat.le_refl _

theorem spanWord_eq (s : List Char) : (spanWord s).1 ++ (spanWord s).2 = s := by
  induction s with
  | nil => rfl
  | cons c r ih => rw [spanWord]; split <;> simp [ih]

theorem spanWord_append (w rest : List Char) (hw : ∀ c ∈ w, isWordChar c = true)
    (hs : HeadNot isWordChar rest) : spanWord (w ++ rest) = (w, rest) := by
  induction w with
  | nil =>
    cases rest with
    | nil => rfl
    | cons c r => simp [spanWord, hs c rfl]
  | cons a r ih =>
    simp [spanWord, hw a (List.mem_cons_self ..), ih (fun c hc => hw c (List.mem_cons_of_mem _ hc))]

theorem scanWord_append (w rest : List Char) (hne : w ≠ []) (hw : ∀ c ∈ w, isWordChar c = true)
    (hs : HeadNot isWordChar rest) : scanWord (w ++ rest) = some (w, rest) := by
  rw [scanWord, spanWord_append w rest hw hs]
  cases w with
  | nil => exact absurd rfl hne
  | cons a r => rfl

theorem scanWord_rest_lt (s w rest : List Char) (h : scanWord s = some (w, rest)) :
    rest.length < s.length := by
  have he := spanWord_eq s
  rw [scanWord] at h
  cases hsp : spanWord s with
  | mk w' rest' =>
    rw [hsp] at h he
    cases w' with
    | nil => cases h
    | cons a t => cases h; rw [← he]; simp; omega

theorem scanWord_none_of_not_word (c : Char) (r : List Char) (h : isWordChar c = false) :
    scanWord (c :: r) = none := by
  simp [scanWord, spanWord, h]

theorem scanQuoted_close (rest : List Char) : scanQuoted ('"' :: rest) = some ([], rest) := by
  cases rest <;> simp [scanQuoted]

theorem scanQuoted_esc (e : Char) (r : List Char) (he : e ≠ '\n') :
    scanQuoted ('\\' :: e :: r) = (scanQuoted r).map (fun p => ('\\' :: e :: p.1, p.2)) := by
  rw [scanQuoted, if_neg (by decide), if_pos rfl, if_neg he]
  cases scanQuoted r <;> rfl

theorem scanQuoted_plain (c : Char) (tail : List Char) (hne : tail ≠ [])
    (h1 : c ≠ '"') (h2 : c ≠ '\\') (h3 : c ≠ '\n') (h4 : c ≠ '\r') :
    scanQuoted (c :: tail) = (scanQuoted tail).map (fun p => (c :: p.1, p.2)) := by
  cases tail with
  | nil => exact absurd rfl hne
  | cons e r =>
    rw [scanQuoted, if_neg h1, if_neg h2, if_neg (not_or.mpr ⟨h3, h4⟩)]
    cases scanQuoted (e :: r) <;> rfl

theorem scanQuoted_escape (item rest : List Char) (h : ∀ c ∈ item, c ≠ '\n' ∧ c ≠ '\r') :
    scanQuoted (escape item ++ '"' :: rest) = some (escape item, rest) := by
  induction item with
  | nil => exact scanQuoted_close rest
  | cons a r ih =>
    have ih' := ih (fun c hc => h c (List.mem_cons_of_mem _ hc))
    have ha := h a (List.mem_cons_self ..)
    rw [escape]
    split
    · rw [List.cons_append, List.cons_append, scanQuoted_esc _ _ ha.1, ih']; rfl
    · rename_i hq
      rw [List.cons_append, scanQuoted_plain a _ (by simp) (fun hh => hq (.inl hh))
        (fun hh => hq (.inr hh)) ha.1 ha.2, ih']; rfl

theorem scanQuoted_eq_some (s raw rest : List Char) (h : scanQuoted s = some (raw, rest)) :
    s = raw ++ '"' :: rest := by
  fun_induction scanQuoted s generalizing raw rest <;> cases h
  · rfl
  · rfl
  · rename_i hq _ ih; rw [ih _ _ hq]; rfl
  · rename_i hq ih; rw [ih _ _ hq]; rfl

theorem scanQuoted_noClosing (s : List Char) (h : noClosingQuote s = true) : scanQuoted s = none := by
  fun_induction noClosingQuote s <;> simp_all [scanQuoted]

theorem unquote_plain (c : Char) (tail : List Char) (h : c ≠ '\\') :
    unquote (c :: tail) = c :: unquote tail := by
  cases tail with
  | nil => rfl
  | cons e r => rw [unquote, if_pos h]

theorem unquote_esc (e : Char) (tail : List Char) (h : e = '"' ∨ e = '\\') :
    unquote ('\\' :: e :: tail) = e :: unquote tail := by
  rcases h with h | h <;> subst h <;> cases tail <;> simp [unquote, isOct]

theorem unquote_escape (item : List Char) : unquote (escape item) = item := by
  induction item with
  | nil => rfl
  | cons a r ih =>
    rw [escape]
    split
    · rename_i h; rw [unquote_esc a _ h, ih]
    · rename_i h; rw [unquote_plain a _ (fun hh => h (.inr hh)), ih]

theorem parseItem_quote (item rest : List Char) (h : ∀ c ∈ item, c ≠ '\n' ∧ c ≠ '\r') :
    parseItem (quote item ++ rest) = some (item, rest) := by
  simp only [quote, List.cons_append, List.append_assoc, List.nil_append, parseItem, if_true,
    scanQuoted_escape item rest h, unquote_escape]

theorem parseItem_bare (w rest : List Char) (hne : w ≠ []) (hw : ∀ c ∈ w, isWordChar c = true)
    (hs : HeadNot isWordChar rest) : parseItem (w ++ rest) = some (w, rest) := by
  cases w with
  | nil => exact absurd rfl hne
  | cons a t =>
    rw [List.cons_append, parseItem, if_neg (word_ne_quote a (hw a (List.mem_cons_self ..)))]
    exact scanWord_append (a :: t) rest hne hw hs

theorem parseItem_enc (item e rest : List Char) (he : IsEnc item e) (hok : okItem item = true)
    (hs : e = item → HeadNot isWordChar rest) : parseItem (e ++ rest) = some (item, rest) := by
  rcases he with rfl | ⟨rfl, hne, hw⟩
  · exact parseItem_quote item rest (okItem_char item hok)
  · exact parseItem_bare e rest hne hw (hs rfl)

theorem parseItem_rest_lt (s item rest : List Char) (h : parseItem s = some (item, rest)) :
    rest.length < s.length := by
  cases s with
  | nil => cases h
  | cons c r =>
    rw [parseItem] at h
    split at h
    · split at h <;> cases h
      rename_i hq
      rw [scanQuoted_eq_some r _ _ hq]; simp; omega
    · exact scanWord_rest_lt _ _ _ h

theorem parseItems_step_lt {s item rest r : List Char} {c : Char}
    (hp : parseItem (skipWs s) = some (item, rest)) (hk : skipWs rest = c :: r) :
    r.length < s.length := by
  have h1 := parseItem_rest_lt _ _ _ hp
  have h2 := skipWs_length_le s
  have h3 := skipWs_length_le rest
  rw [hk] at h3
  exact Nat.lt_of_lt_of_le (Nat.lt_trans (Nat.lt_of_succ_le h3) h1) h2

theorem parseItems_fuel (f1 : Nat) : ∀ (f2 : Nat) (s : List Char), s.length < f1 → s.length < f2 →
    parseItems f1 s = parseItems f2 s := by
  induction f1 with
  | zero => intro f2 s h; exact absurd h (Nat.not_lt_zero _)
  | succ f1 ih =>
    intro f2 s h1 h2
    cases f2 with
    | zero => exact absurd h2 (Nat.not_lt_zero _)
    | succ f2 =>
      rw [parseItems, parseItems]
      split
      · rfl
      · split
        · rfl
        · rename_i hp _ c r hk
          have hlt := parseItems_step_lt hp hk
          rw [ih f2 r (Nat.lt_of_lt_of_le hlt (Nat.le_of_lt_succ h1))
            (Nat.lt_of_lt_of_le hlt (Nat.le_of_lt_succ h2))]

theorem parseItems_error (f : Nat) (s : List Char) (e : Err) (h : parseItems f s = .error e)
    (hf : s.length < f) : e = .valueError := by
  fun_induction parseItems f s <;> cases h
  · exact absurd hf (Nat.not_lt_zero _)
  · rfl
  · rename_i hp _ hk ih hr
    exact ih hr (Nat.lt_of_lt_of_le (parseItems_step_lt hp hk) (Nat.le_of_lt_succ hf))
  · rfl

/-- One round on an encoded item.  A bare item must be followed by something that ends the word,
    or the word scanner would run on. -/
theorem parseItems_enc (f : Nat) (item e rest : List Char) (he : IsEnc item e)
    (hok : okItem item = true) (hs : e = item → HeadNot isWordChar rest) :
    parseItems (f + 1) (e ++ rest) =
      match skipWs rest with
      | [] => .ok [item]
      | c :: r =>
        if c = ',' then
          match parseItems f r with
          | .ok l => .ok (item :: l)
          | .error err => .error err
        else .error .valueError := by
  rw [parseItems, skipWs_of_head _ (enc_head_not_ws item e he _), parseItem_enc item e _ he hok hs]
  rfl

theorem parseItems_comma (f : Nat) (item e tail : List Char) (he : IsEnc item e)
    (hok : okItem item = true) :
    parseItems (f + 1) (e ++ ',' :: tail) =
      match parseItems f tail with
      | .ok l => .ok (item :: l)
      | .error err => .error err := by
  rw [parseItems_enc f item e _ he hok (fun _ => .cons (by decide)),
    skipWs_of_head _ (.cons (by decide))]
  rfl

theorem parseItems_last (f : Nat) (item e ws : List Char) (he : IsEnc item e) (hok : okItem item = true)
    (hws : ∀ c ∈ ws, isWs c = true) :
    parseItems (f + 1) (e ++ ws) = .ok [item] := by
  rw [parseItems_enc f item e ws he hok (fun _ => headNot_word_of_ws ws hws),
    ← List.append_nil ws, skipWs_append ws [] hws .nil]

theorem parseItems_text_after_item (item e ws : List Char) (c : Char) (rest : List Char)
    (hi : okItem item = true) (he : IsEnc item e)
    (hws : ∀ w ∈ ws, isWs w = true) (hc1 : isWs c = false) (hc2 : c ≠ ',')
    (hstop : e = item → ws = [] → isWordChar c = false) (f : Nat) :
    parseItems (f + 1) (e ++ (ws ++ c :: rest)) = .error .valueError := by
  have hst : e = item → HeadNot isWordChar (ws ++ c :: rest) := fun hei => by
    cases ws with
    | nil => exact .cons (hstop hei rfl)
    | cons a t => exact .cons (isWs_not_word a (hws a (List.mem_cons_self ..)))
  rw [parseItems_enc f item e _ he hi hst, skipWs_append ws (c :: rest) hws (.cons hc1)]
  exact if_neg hc2

theorem parseItems_unclosed (body : List Char) (hb : noClosingQuote body = true) (f : Nat) :
    parseItems (f + 1) ('"' :: body) = .error .valueError := by
  rw [parseItems, skipWs_of_head _ (.cons (by decide)), parseItem, if_pos rfl,
    scanQuoted_noClosing body hb]

theorem parseItems_empty_item (ws tail : List Char) (hws : ∀ w ∈ ws, isWs w = true)
    (htail : tail = [] ∨ ∃ r, tail = ',' :: r) (f : Nat) :
    parseItems (f + 1) (ws ++ tail) = .error .valueError := by
  rw [parseItems]
  rcases htail with rfl | ⟨r, rfl⟩
  · rw [skipWs_append ws [] hws .nil]; rfl
  · rw [skipWs_append ws _ hws (.cons (by decide)), parseItem, if_neg (by decide),
      scanWord_none_of_not_word ',' r (by decide)]

theorem joinSep_cons_cons (sep : Char) (a b : List Char) (t : List (List Char)) :
    joinSep sep (a :: b :: t) = a ++ sep :: joinSep sep (b :: t) := rfl

theorem length_lt_of_append_cons {x T : List Char} {c : Char} {f : Nat}
    (h : (x ++ c :: T).length < f + 1) : T.length < f := by
  rw [List.length_append, List.length_cons] at h; omega

theorem parseItems_join (items : List (List Char)) (enc : List Char → List Char)
    (henc : ∀ i ∈ items, IsEnc i (enc i)) (hok : ∀ i ∈ items, okItem i = true) (hne : items ≠ []) :
    ∀ f, (joinSep ',' (items.map enc)).length < f →
      parseItems f (joinSep ',' (items.map enc)) = .ok items := by
  induction items with
  | nil => exact absurd rfl hne
  | cons a t ih =>
    intro f hf
    cases f with
    | zero => exact absurd hf (Nat.not_lt_zero _)
    | succ f =>
      have ha := henc a (List.mem_cons_self ..)
      have hoa := hok a (List.mem_cons_self ..)
      cases t with
      | nil =>
        have := parseItems_last f a (enc a) [] ha hoa (fun _ h => nomatch h)
        rwa [List.append_nil] at this
      | cons b t =>
        rw [List.map_cons, List.map_cons, joinSep_cons_cons] at hf ⊢
        rw [parseItems_comma f a _ _ ha hoa, ← List.map_cons,
          ih (fun i hi => henc i (List.mem_cons_of_mem _ hi))
            (fun i hi => hok i (List.mem_cons_of_mem _ hi)) (List.cons_ne_nil _ _) f
            (length_lt_of_append_cons hf)]

theorem parseItems_prefix_error (pre : List (List Char)) (bad : List Char) (err : Err)
    (hok : ∀ i ∈ pre, okItem i = true) (hbad : ∀ f, parseItems (f + 1) bad = .error err) :
    ∀ f, (prefixStr pre ++ bad).length < f → parseItems f (prefixStr pre ++ bad) = .error err := by
  induction pre with
  | nil =>
    intro f hf
    cases f with
    | zero => exact absurd hf (Nat.not_lt_zero _)
    | succ f => exact hbad f
  | cons a t ih =>
    intro f hf
    cases f with
    | zero => exact absurd hf (Nat.not_lt_zero _)
    | succ f =>
      rw [prefixStr, List.append_assoc, List.cons_append] at hf ⊢
      rw [parseItems_comma f a _ _ (isEnc_quoteIfNeeded a) (hok a (List.mem_cons_self ..)),
        ih (fun i hi => hok i (List.mem_cons_of_mem _ hi)) f
          (length_lt_of_append_cons hf)]

theorem prefixStr_notab (pre : List (List Char)) (hok : ∀ i ∈ pre, okItem i = true) :
    '\t' ∉ prefixStr pre := by
  induction pre with
  | nil => exact List.not_mem_nil
  | cons a t ih =>
    simp only [prefixStr, List.mem_append, List.mem_cons, not_or]
    exact ⟨isEnc_notab a _ (isEnc_quoteIfNeeded a) (hok a (List.mem_cons_self ..)), by decide,
      ih (fun i hi => hok i (List.mem_cons_of_mem _ hi))⟩

theorem joinSep_notab (l : List (List Char)) (h : ∀ e ∈ l, '\t' ∉ e) : '\t' ∉ joinSep ',' l := by
  induction l with
  | nil => exact List.not_mem_nil
  | cons a t ih =>
    cases t with
    | nil => exact h a (List.mem_cons_self ..)
    | cons b t =>
      rw [joinSep_cons_cons]
      simp only [List.mem_append, List.mem_cons, not_or]
      exact ⟨h a (List.mem_cons_self ..), by decide, ih (fun e he => h e (List.mem_cons_of_mem _ he))⟩

theorem expandTabs_notab (col : Nat) (s : List Char) (h : '\t' ∉ s) : expandTabs col s = s := by
  induction s generalizing col with
  | nil => rfl
  | cons c r ih =>
    rw [expandTabs, if_neg (fun hh => h (List.mem_cons.mpr (.inl hh.symm)))]
    split <;> rw [ih _ (fun hh => h (List.mem_cons_of_mem _ hh))]

/-- column reached after writing `s` from column `col` (as `str.expandtabs` counts) -/
def colAfter : Nat → List Char → Nat
  | col, [] => col
  | col, c :: r =>
    if c = '\t' then colAfter (col + (8 - col % 8)) r
    else if c = '\n' ∨ c = '\r' then colAfter 0 r
    else colAfter (col + 1) r

theorem expandTabs_append (col : Nat) (a b : List Char) :
    expandTabs col (a ++ b) = expandTabs col a ++ expandTabs (colAfter col a) b := by
  induction a generalizing col with
  | nil => rfl
  | cons c r ih =>
    simp only [List.cons_append, expandTabs, colAfter]
    split
    · rw [ih, List.append_assoc]
    · split <;> rw [ih, List.cons_append]

theorem expandTabs_tab (col : Nat) (r : List Char) :
    ∃ k col', expandTabs col ('\t' :: r) = ' ' :: (List.replicate k ' ' ++ expandTabs col' r) :=
  ⟨7 - col % 8, col + (8 - col % 8), by
    rw [expandTabs, if_pos rfl, Nat.succ_sub (Nat.le_of_lt_succ (Nat.mod_lt col (by decide)))]; rfl⟩

theorem expandTabs_cons_nontab (col : Nat) (c : Char) (r : List Char) (h : c ≠ '\t') :
    ∃ col', expandTabs col (c :: r) = c :: expandTabs col' r := by
  rw [expandTabs, if_neg h]
  split
  · exact ⟨0, rfl⟩
  · exact ⟨col + 1, rfl⟩

theorem expandTabs_ws (col : Nat) (ws : List Char) (h : ∀ c ∈ ws, isWs c = true) :
    ∀ c ∈ expandTabs col ws, isWs c = true := by
  induction ws generalizing col with
  | nil => exact fun _ hc => nomatch hc
  | cons a r ih =>
    have ihr := fun col => ih col (fun c hc => h c (List.mem_cons_of_mem _ hc))
    intro c hc
    by_cases ha : a = '\t'
    · obtain ⟨k, col', he⟩ := expandTabs_tab col r
      rw [ha, he] at hc
      simp only [List.mem_cons, List.mem_append, List.mem_replicate] at hc
      rcases hc with rfl | ⟨-, rfl⟩ | hc
      · rfl
      · rfl
      · exact ihr _ c hc
    · obtain ⟨col', he⟩ := expandTabs_cons_nontab col a r ha
      rw [he] at hc
      rcases List.mem_cons.mp hc with rfl | hc
      · exact h c (List.mem_cons_self ..)
      · exact ihr _ c hc

theorem expandTabs_eq_nil (col : Nat) (s : List Char) (h : expandTabs col s = []) : s = [] := by
  cases s with
  | nil => rfl
  | cons c r =>
    by_cases hc : c = '\t'
    · obtain ⟨k, col', he⟩ := expandTabs_tab col r
      rw [hc, he] at h; cases h
    · obtain ⟨col', he⟩ := expandTabs_cons_nontab col c r hc
      rw [he] at h; cases h

/-- `noClosingQuote` read one character at a time; `esc` says that the previous character was an
    unescaped backslash, so this one is taken along whatever it is -/
def noClosingQuoteFrom : Bool → List Char → Bool
  | _, [] => true
  | true, _ :: r => noClosingQuoteFrom false r
  | false, c :: r =>
    if c = '"' then false
    else if c = '\\' then noClosingQuoteFrom true r
    else noClosingQuoteFrom false r

theorem noClosingQuote_eq_from (s : List Char) : noClosingQuote s = noClosingQuoteFrom false s := by
  fun_induction noClosingQuote s <;> simp [noClosingQuoteFrom, *]
  rename_i c; by_cases h : c = '"' <;> simp [h]

theorem noClosingQuote_escape (item : List Char) : noClosingQuote (escape item) = true := by
  rw [noClosingQuote_eq_from]
  induction item with
  | nil => rfl
  | cons a r ih => rw [escape]; split <;> simp_all [noClosingQuoteFrom]

theorem noClosingQuoteFrom_spaces (esc : Bool) (n : Nat) (s : List Char) :
    noClosingQuoteFrom esc (' ' :: (List.replicate n ' ' ++ s)) = noClosingQuoteFrom false s := by
  induction n generalizing esc with
  | zero => cases esc <;> simp [noClosingQuoteFrom]
  | succ n ih => cases esc <;> simp [noClosingQuoteFrom, List.replicate_succ, ih]

/-- a TAB and the spaces it becomes are the same to the scan: at least one plain character -/
theorem noClosingQuoteFrom_expandTabs (esc : Bool) (col : Nat) (s : List Char) :
    noClosingQuoteFrom esc (expandTabs col s) = noClosingQuoteFrom esc s := by
  induction s generalizing esc col with
  | nil => rfl
  | cons c r ih =>
    by_cases hc : c = '\t'
    · obtain ⟨k, col', he⟩ := expandTabs_tab col r
      rw [hc, he, noClosingQuoteFrom_spaces, ih]
      cases esc <;> simp [noClosingQuoteFrom]
    · obtain ⟨col', he⟩ := expandTabs_cons_nontab col c r hc
      rw [he]
      cases esc <;> simp [noClosingQuoteFrom, ih]

theorem noClosingQuote_expandTabs (col : Nat) (s : List Char) :
    noClosingQuote (expandTabs col s) = noClosingQuote s := by
  rw [noClosingQuote_eq_from, noClosingQuote_eq_from, noClosingQuoteFrom_expandTabs]

/-- a tail that fails whatever column it starts in still fails behind any well-formed prefix
    `item,item,…,` (the prefix contains no TAB, so `expandtabs` only acts on the tail) -/
theorem splitByCommas_prefix_error (pre : List (List Char)) (bad : List Char)
    (hok : ∀ i ∈ pre, okItem i = true)
    (hbad : ∀ col f, parseItems (f + 1) (expandTabs col bad) = .error .valueError) :
    splitByCommas (prefixStr pre ++ bad) = .error .valueError := by
  unfold splitByCommas parseAll
  rw [expandTabs_append, expandTabs_notab _ _ (prefixStr_notab pre hok)]
  exact parseItems_prefix_error pre _ _ hok (hbad _) _ (Nat.lt_succ_self _)

end Oslo.Split
