/-
The memory invariant of every inspector (all ten formats, VHDX and VMDK included):
region names are distinct and come from a fixed list, and every region holds at most
`length` bytes with `length` below a per-name cap.
-/
import OsloProofs.Lemmas.Acts
namespace Oslo.Insp

/-- the bound of property C05 (its text says 512 KiB, three times that for VMDK) -/
def limit : Fmt → Nat
  | .vmdk => 3 * 512 * 1024
  | _ => 512 * 1024

/-- the last clause is the one of `PP.new`: end-capture regions have a positive length and are named
    "footer" -/
structure RInv (f : Fmt) (rs : List (String × Region)) : Prop where
  nodup : (rs.map (·.1)).Nodup
  each : ∀ p ∈ rs, p.1 ∈ allowed f ∧ p.2.data.length ≤ p.2.length ∧ p.2.length ≤ cap f p.1 ∧
            (p.2.isEnd = true → 0 < p.2.length ∧ p.1 = "footer")

/-- the invariant on an inspector -/
def SInv (s : Insp) : Prop := RInv s.fmt s.regions

theorem lemma_capture_len (r : Region) (c : Bytes) (pos : Nat) (h : r.data.length ≤ r.length)
    (he : r.isEnd = true → 0 < r.length) :
    (r.capture c pos).data.length ≤ (r.capture c pos).length ∧ (r.capture c pos).length = r.length ∧
    (r.capture c pos).isEnd = r.isEnd := by
  fun_cases Region.capture r c pos
  · next hE d =>
    refine ⟨?_, rfl, rfl⟩
    simp only [d, lastN, if_neg (Nat.ne_of_gt (he hE)), List.length_drop]
    omega
  · exact ⟨List.length_take_le _ _, rfl, rfl⟩
  · exact ⟨h, rfl, rfl⟩

theorem lemma_rinv_map (f : Fmt) (rs : List (String × Region)) (g : String × Region → Region)
    (h : RInv f rs)
    (hg : ∀ p ∈ rs, (g p).data.length ≤ (g p).length ∧ (g p).length ≤ p.2.length ∧ (g p).isEnd = p.2.isEnd ∧
       ((g p).isEnd = true → 0 < (g p).length ∧ p.1 = "footer")) :
    RInv f (rs.map (fun p => (p.1, g p))) := by
  constructor
  · simpa [List.map_map, Function.comp_def] using h.nodup
  · intro q hq
    simp only [List.mem_map] at hq
    obtain ⟨p, hp, rfl⟩ := hq
    obtain ⟨a, b, c, d⟩ := h.each p hp
    obtain ⟨g1, g2, g3, g4⟩ := hg p hp
    exact ⟨a, g1, Nat.le_trans g2 c, g4⟩

theorem lemma_captureAll_eq (s : Insp) (c : Bytes) (only : List String) :
    s.captureAll c only = { s with regions := s.regions.map (fun p => (p.1,
      if (only.isEmpty || only.contains p.1) && (p.2.isEnd || !p.2.complete)
      then p.2.capture c s.total else p.2)) } := by
  unfold Insp.captureAll
  congr 1
  apply List.map_congr_left
  intro p _
  split <;> rfl

theorem lemma_rinv_captureAll {f : Fmt} (s : Insp) (c : Bytes) (only : List String) (h : RInv f s.regions) :
    RInv f (s.captureAll c only).regions := by
  rw [lemma_captureAll_eq]
  apply lemma_rinv_map f s.regions _ h
  intro p hp
  obtain ⟨a, b, c', d⟩ := h.each p hp
  split
  · obtain ⟨x, y, z⟩ := lemma_capture_len p.2 c s.total b (fun e => (d e).1)
    exact ⟨x, by omega, z, by rw [z, y]; exact d⟩
  · exact ⟨b, Nat.le_refl _, rfl, d⟩

theorem PP.rinv {f : Fmt} {s s' : Insp} (h : PP f s s') (hi : RInv f s.regions) : RInv f s'.regions := by
  induction h with
  | refl | check => exact hi
  | trans _ _ ih1 ih2 => exact ih2 (ih1 hi)
  | new hn ha hc he =>
    obtain ⟨hh, rfl⟩ := lemma_newRegion_ok hn
    simp only [Insp.hasRegion, Option.isSome_eq_false_iff, Option.isNone_iff_eq_none] at hh
    constructor
    · simp only [List.map_append, List.map_cons, List.map_nil]
      rw [List.nodup_append]
      refine ⟨hi.nodup, by simp, ?_⟩
      intro a ha' b hb
      simp only [List.mem_singleton] at hb
      subst hb
      intro e; subst e
      exact lemma_lookupR_none _ _ hh ha'
    · intro p hp
      simp only [List.mem_append, List.mem_singleton] at hp
      rcases hp with hp | rfl
      · exact hi.each p hp
      · exact ⟨ha, by simp, hc, he⟩
  | delete hd =>
    rw [lemma_deleteRegion_ok hd]
    exact ⟨List.Nodup.sublist (List.Sublist.map _ List.filter_sublist) hi.nodup,
      fun p hp => hi.each p (List.mem_filter.mp hp).1⟩
  | trunc s hn =>
    rename_i n
    have e : (s.updRegion n (fun r => { r with length := r.data.length })).regions =
        s.regions.map (fun p => (p.1, if p.1 = n then { p.2 with length := p.2.data.length } else p.2)) := by
      unfold Insp.updRegion
      apply List.map_congr_left
      intro p _
      split <;> rfl
    rw [e]
    apply lemma_rinv_map f s.regions _ hi
    intro p hp
    obtain ⟨a, b, c', d⟩ := hi.each p hp
    split
    · next hpn => exact ⟨Nat.le_refl _, b, rfl, fun hE => absurd (hpn ▸ (d hE).2) hn⟩
    · exact ⟨b, Nat.le_refl _, rfl, d⟩

theorem Acts.rinv {f : Fmt} {s s' : Insp} (h : Acts f s s') (hi : RInv f s.regions) : RInv f s'.regions := by
  induction h with
  | refl | aux => exact hi
  | trans _ _ ih1 ih2 => exact ih2 (ih1 hi)
  | pp h => exact h.rinv hi
  | capture s c only => exact lemma_rinv_captureAll s c only hi

theorem Acts.sinv {s s' : Insp} (h : Acts s.fmt s s') (hi : SInv s) : SInv s' := by
  unfold SInv
  rw [h.fmt_eq]
  exact h.rinv hi

theorem lemma_postProcess_inv (s : Insp) (h : SInv s) : SInv (postProcess s).1 :=
  (Acts.pp (lemma_postProcess_pp s)).sinv h

theorem lemma_eatChunk_inv (s : Insp) (c : Bytes) (h : SInv s) : SInv (eatChunk s c).1 :=
  (lemma_eatChunk_acts s c).sinv h

theorem lemma_finish_inv (s : Insp) (h : SInv s) : SInv s.finish := by
  unfold Insp.finish SInv
  simp only
  apply lemma_rinv_map s.fmt s.regions (fun p => p.2.finish) h
  intro p hp
  obtain ⟨a, b, c', d⟩ := h.each p hp
  unfold Region.finish
  split
  · exact ⟨b, Nat.le_refl _, rfl, d⟩
  · exact ⟨b, Nat.le_refl _, rfl, d⟩

theorem lemma_retained_le (f : Fmt) (rs : List (String × Region)) (h : RInv f rs) :
    (rs.map (fun p => p.2.data.length)).sum ≤ ((allowed f).map (cap f)).sum := by
  have key : ∀ (rs : List (String × Region)) (A : List String), (rs.map (·.1)).Nodup →
      (∀ p ∈ rs, p.1 ∈ A ∧ p.2.data.length ≤ cap f p.1) →
      (rs.map (fun p => p.2.data.length)).sum ≤ (A.map (cap f)).sum := by
    intro rs
    induction rs with
    | nil => exact fun _ _ _ => Nat.zero_le _
    | cons p rs ih =>
      intro A hn hs
      obtain ⟨hpA, hle⟩ := hs p List.mem_cons_self
      obtain ⟨hp, hn'⟩ := List.nodup_cons.mp hn
      have := ih (A.erase p.1) hn' (fun q hq => by
        obtain ⟨hqA, hql⟩ := hs q (List.mem_cons_of_mem _ hq)
        refine ⟨(List.mem_erase_of_ne (fun e => hp ?_)).mpr hqA, hql⟩
        exact List.mem_map.mpr ⟨q, hq, e⟩)
      rw [((List.perm_cons_erase hpA).map (cap f)).sum_nat, List.map_cons, List.sum_cons,
        List.map_cons, List.sum_cons]
      omega
  exact key rs _ h.nodup (fun p hp =>
    ⟨(h.each p hp).1, Nat.le_trans (h.each p hp).2.1 (h.each p hp).2.2.1⟩)

/-- Boolean check of the invariant on a concrete region table -/
def rinvB (f : Fmt) (rs : List (String × Region)) : Bool :=
  decide (rs.map (·.1)).Nodup &&
  rs.all (fun p => (allowed f).contains p.1 && decide (p.2.data.length ≤ p.2.length) &&
    decide (p.2.length ≤ cap f p.1) && (!p.2.isEnd || (decide (0 < p.2.length) && p.1 == "footer")))

theorem lemma_rinvB (f : Fmt) (rs : List (String × Region)) (h : rinvB f rs = true) : RInv f rs := by
  unfold rinvB at h
  simp only [Bool.and_eq_true, decide_eq_true_eq, List.all_eq_true, List.contains_eq_mem,
    Bool.or_eq_true, Bool.not_eq_true', beq_iff_eq] at h
  obtain ⟨hn, he⟩ := h
  refine ⟨hn, fun p hp => ?_⟩
  obtain ⟨⟨⟨a, b⟩, c⟩, d⟩ := he p hp
  refine ⟨a, b, c, fun hE => ?_⟩
  rcases d with d | d
  · rw [hE] at d; simp at d
  · exact d

/-- by evaluation over the generated region tables -/
theorem lemma_init_sinv {f : Fmt} {s0 : Insp} (h0 : Insp.init f = some s0) : SInv s0 := by
  rw [lemma_init_eq h0]
  apply lemma_rinvB
  cases f <;> decide

end Oslo.Insp
