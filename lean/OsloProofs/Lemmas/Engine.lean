/-
`FileInspector.eat_chunk` for the formats whose regions are fixed at initialisation (everything
except VHDX and VMDK): with no post-processing, and for all but qcow2 no callback, a chunk only
steps each region.  The classification of the formats (`static`, `plain`, names) comes first.
The step lemma is an instance of one for all formats: an `eat_chunk` whose post-processing step
changes nothing (`lemma_eatChunk_of_fix`).
-/
import OsloProofs.Lemmas.Acts
import OsloProofs.Lemmas.Capture
namespace Oslo.Insp

/-- formats without post-processing -/
def Fmt.static (f : Fmt) : Bool := f != .vhdx && f != .vmdk

/-- formats without post-processing and without a region_complete callback -/
def Fmt.plain (f : Fmt) : Bool := f.static && f != .qcow2

theorem Fmt.vhdx_or_vmdk_of_not_static (f : Fmt) (h : ¬ f.static = true) : f = .vhdx ∨ f = .vmdk := by
  revert h
  cases f <;> decide

theorem Fmt.ofName?_name (f : Fmt) : Fmt.ofName? f.name = some f := by cases f <;> rfl

theorem Fmt.eq_raw_of_name (f : Fmt) (h : f.name = "raw") : f = .raw := by
  have : Fmt.ofName? "raw" = some Fmt.raw := rfl
  rw [← h, Fmt.ofName?_name] at this
  exact Option.some.inj this

theorem lemma_postProcess_static (s : Insp) (h : s.fmt.static = true) : postProcess s = (s, none) := by
  unfold postProcess
  split
  · next hf => rw [hf] at h; cases h
  · next hf => rw [hf] at h; cases h
  · rfl

/-- one chunk presented to one region under the skip-when-complete rule -/
def stepRegion (c : Bytes) (pos' : Nat) (r : Region) : Region :=
  if r.isEnd || !r.complete then r.capture c pos' else r

theorem lemma_stepRegion_rid (c : Bytes) (pos' : Nat) (r : Region) : (stepRegion c pos' r).rid = r.rid := by
  unfold stepRegion
  split
  · exact lemma_capture_rid r c pos'
  · rfl

theorem lemma_captureAll_nil (s : Insp) (c : Bytes) :
    (s.captureAll c []) = { s with regions := s.regions.map (fun p => (p.1, stepRegion c s.total p.2)) } := by
  unfold Insp.captureAll stepRegion
  congr 1
  apply List.map_congr_left
  intro p _
  simp only [List.isEmpty_nil, Bool.true_or, Bool.true_and]
  split <;> rfl

/-- the two ways the `while new_regions` loop finds that no region is new -/
theorem lemma_fresh_empty_iff (s : Insp) (seen : List Nat) :
    (s.regions.filter (fun p => !seen.contains p.2.rid)).isEmpty = true ↔ ∀ p ∈ s.regions, p.2.rid ∈ seen := by
  simp only [List.isEmpty_iff, List.filter_eq_nil_iff, Bool.not_eq_true', List.contains_eq_mem,
    decide_eq_false_iff_not, Decidable.not_not]

theorem lemma_fresh_any_iff (s : Insp) (seen : List Nat) :
    ¬ (s.regions.any (fun p => !seen.contains p.2.rid) = true) ↔ ∀ p ∈ s.regions, p.2.rid ∈ seen := by
  simp only [Bool.not_eq_true, List.any_eq_false, Bool.not_eq_true', List.contains_eq_mem,
    decide_eq_false_iff_not, Decidable.not_not]

theorem lemma_followUp_none (fuel : Nat) (s : Insp) (c : Bytes) (seen : List Nat)
    (h : ∀ p ∈ s.regions, p.2.rid ∈ seen) : followUp fuel s c seen = (s, none) := by
  cases fuel with
  | zero => simp only [followUp, if_neg ((lemma_fresh_any_iff s seen).mpr h)]
  | succ n => simp only [followUp, if_pos ((lemma_fresh_empty_iff s seen).mpr h)]

theorem lemma_runCallbacks_none (names : List String) (s : Insp) (h1 : s.fmt ≠ .qcow2) (h2 : s.fmt ≠ .vmdk) :
    runCallbacks s names = (s, none) := by
  induction names with
  | nil => rfl
  | cons n ns ih =>
    have : regionComplete s n = (s, none) := by
      unfold regionComplete
      split
      · next hf => exact absurd hf h1
      · next hf => exact absurd hf h2
      · rfl
    simp only [runCallbacks, this, ih]

/-- the state after `eat_chunk` up to (not including) the region_complete callbacks -/
def afterCapture (s : Insp) (c : Bytes) : Insp :=
  { s with total := s.total + c.length,
           regions := s.regions.map (fun p => (p.1, stepRegion c (s.total + c.length) p.2)) }

/-- an `eat_chunk` whose post-processing step changes nothing: the `while new_regions` loop finds
    no new region, so only the region_complete callbacks remain -/
theorem lemma_eatChunk_of_fix (s : Insp) (c : Bytes) (hf : s.finished = false)
    (hpp : postProcess (afterCapture s c) = (afterCapture s c, none)) :
    eatChunk s c =
      runCallbacks (afterCapture s c)
        (((afterCapture s c).regions.filter (fun p => p.2.complete &&
            !((s.regions.filter (·.2.complete)).map (·.2.rid)).contains p.2.rid)).map (·.1)) := by
  have hcap : ({ s with total := s.total + c.length } : Insp).captureAll c [] = afterCapture s c :=
    lemma_captureAll_nil _ c
  unfold eatChunk
  dsimp only
  rw [if_neg (by rw [hf]; exact Bool.false_ne_true), hcap, hpp]
  dsimp only
  rw [lemma_followUp_none]
  intro p hp
  obtain ⟨q, hq, rfl⟩ := List.mem_map.mp hp
  exact List.mem_map.mpr ⟨q, hq, (lemma_stepRegion_rid ..).symm⟩

theorem lemma_eatChunk_static (s : Insp) (c : Bytes) (hs : s.fmt.static = true) (hf : s.finished = false) :
    eatChunk s c =
      runCallbacks (afterCapture s c)
        (((afterCapture s c).regions.filter (fun p => p.2.complete &&
            !((s.regions.filter (·.2.complete)).map (·.2.rid)).contains p.2.rid)).map (·.1)) :=
  lemma_eatChunk_of_fix s c hf (lemma_postProcess_static _ hs)

theorem lemma_eatChunk_plain (s : Insp) (c : Bytes) (hs : s.fmt.plain = true) (hf : s.finished = false) :
    eatChunk s c = (afterCapture s c, none) := by
  have hst : s.fmt.static = true := by
    simp only [Fmt.plain, Bool.and_eq_true] at hs; exact hs.1
  rw [lemma_eatChunk_static s c hst hf]
  exact lemma_runCallbacks_none _ _ (fun h => by rw [show s.fmt = _ from h] at hs; cases hs)
    (fun h => by rw [show s.fmt = _ from h] at hs; cases hs)

theorem lemma_feed_step (r : Region) (pos : Nat) (c : Bytes) (cs : List Bytes) :
    r.feed pos (c :: cs) = (stepRegion c (pos + c.length) r).feed (pos + c.length) cs := by
  simp [Region.feed, stepRegion]

theorem lemma_feed_plain (chunks : List Bytes) : ∀ (s : Insp), s.fmt.plain = true → s.finished = false →
    feed s chunks =
      ({ s with total := s.total + chunks.flatten.length,
                regions := s.regions.map (fun p => (p.1, p.2.feed s.total chunks)) }, none) := by
  induction chunks with
  | nil => intro s _ _; simp [feed, Region.feed]
  | cons c cs ih =>
    intro s hs hf
    simp only [feed, lemma_eatChunk_plain s c hs hf]
    rw [ih (afterCapture s c) hs hf]
    simp only [afterCapture, List.map_map, List.flatten_cons, List.length_append, Nat.add_assoc]
    congr 2

end Oslo.Insp
