/-
At a chunk boundary (after an `eat_chunk` that returned normally) an inspector is a fixpoint of
post-processing: running `post_process` on it adds no region and raises nothing.  All ten formats.
The reason: a post-processing step that returns normally and changes anything leaves behind a
region whose identity is the old counter value (or, VMDK text descriptors, has dropped the header
region, after which post-processing does nothing).
-/
import OsloProofs.Lemmas.Acts
namespace Oslo.Insp

theorem lemma_new_has {s s' : Insp} {n : String} {off len : Nat} {ml : Option Nat} {isEnd : Bool}
    (h : s.newRegion n off len ml isEnd = .ok s') :
    (∃ p ∈ s'.regions, p.2.rid = s.nextRid ∧ p.1 = n) ∧ s'.nextRid = s.nextRid + 1 ∧
    (∀ p ∈ s.regions, p ∈ s'.regions) := by
  obtain ⟨_, rfl⟩ := lemma_newRegion_ok h
  exact ⟨⟨_, List.mem_append_right _ (List.mem_singleton.mpr rfl), rfl, rfl⟩, rfl,
    fun p hp => List.mem_append_left _ hp⟩

theorem lemma_vhdxPP_same_or_new (s : Insp) : (vhdxPostProcess s).2 = none →
    (vhdxPostProcess s).1 = s ∨ ∃ p ∈ (vhdxPostProcess s).1.regions, p.2.rid = s.nextRid := by
  fun_cases vhdxPostProcess s
  case case5 hn =>   -- "metadata" created
    obtain ⟨⟨p, hp, hr, _⟩, _⟩ := lemma_new_has hn
    exact fun _ => .inr ⟨p, hp, hr⟩
  case case9 =>      -- size item found
    unfold vhdxAddVds
    split
    · intro h; cases h
    · next hn =>
      obtain ⟨⟨p, hp, hr, _⟩, _⟩ := lemma_new_has hn
      exact fun _ => .inr ⟨p, hp, hr⟩
  all_goals exact fun _ => .inl rfl

theorem lemma_vmdkRelocate_same_or_new (s : Insp) (a b : Nat) : (vmdkRelocate s a b).2 = none →
    (vmdkRelocate s a b).1 = s ∨ ((∃ p ∈ (vmdkRelocate s a b).1.regions, p.2.rid = s.nextRid) ∧
               ∀ p ∈ s.regions, p.1 ≠ "descriptor" → p ∈ (vmdkRelocate s a b).1.regions) := by
  fun_cases vmdkRelocate s a b
  case case4 => intro h; cases h   -- re-creation raised
  case case5 hd _ hn =>            -- "descriptor" re-created
    obtain ⟨⟨p, hp, hr, _⟩, _, hkeep⟩ := lemma_new_has hn
    rw [lemma_deleteRegion_ok hd] at hr hkeep
    exact fun _ => .inr ⟨⟨p, hp, hr⟩, fun q hq hne => hkeep q (List.mem_filter.mpr ⟨hq, by simpa using hne⟩)⟩
  all_goals exact fun _ => .inl rfl

theorem lemma_vmdkPP_same_or_new (s : Insp) : (vmdkPostProcess s).2 = none →
    (vmdkPostProcess s).1 = s ∨ lookupR "header" (vmdkPostProcess s).1.regions = none ∨
      ∃ p ∈ (vmdkPostProcess s).1.regions, p.2.rid = s.nextRid := by
  fun_cases vmdkPostProcess s
  case case5 hd =>               -- text descriptor: "header" dropped
    rw [lemma_deleteRegion_ok hd]
    exact fun _ => .inr (.inl (lemma_lookupR_filter_none _ _))
  case case9 hd _ _ s1 he =>     -- sparse header: footer, then relocation
    intro h
    rcases lemma_vmdkAddFooter_ok he with rfl | ⟨s', hn, rfl⟩
    · rcases lemma_vmdkRelocate_same_or_new _ _ _ h with e | ⟨hnew, _⟩
      · exact .inl e
      · exact .inr (.inr hnew)
    · obtain ⟨⟨p, hp, hr, hname⟩, _, _⟩ := lemma_new_has hn
      refine .inr (.inr ⟨p, ?_, hr⟩)
      rcases lemma_vmdkRelocate_same_or_new _ _ _ h with e | ⟨_, hkeep⟩
      · rw [e]; exact hp
      · exact hkeep p hp (by rw [hname]; decide)
  all_goals exact fun _ => .inl rfl

theorem lemma_pp_fix {s s' : Insp} (h : postProcess s = (s', none))
    (hno : ∀ p ∈ s'.regions, p.2.rid ≠ s.nextRid) : postProcess s' = (s', none) := by
  have hfmt : s'.fmt = s.fmt := by rw [← lemma_postProcess_fmt s, h]
  have hsame : s' = s → postProcess s' = (s', none) := fun e => by rw [e] at h ⊢; exact h
  have hnew : (∃ p ∈ s'.regions, p.2.rid = s.nextRid) → postProcess s' = (s', none) :=
    fun ⟨p, hp, hr⟩ => absurd hr (hno p hp)
  unfold postProcess at h
  split at h
  · have := lemma_vhdxPP_same_or_new s
    rw [h] at this
    exact (this rfl).elim hsame hnew
  · next hf =>
    have := lemma_vmdkPP_same_or_new s
    rw [h] at this
    rcases this rfl with e | hnone | hn
    · exact hsame e
    · unfold postProcess
      rw [hfmt, hf]
      simp only
      unfold vmdkPostProcess
      rw [hnone]
    · exact hnew hn
  · exact hsame (Prod.mk.inj h).1.symm

end Oslo.Insp
