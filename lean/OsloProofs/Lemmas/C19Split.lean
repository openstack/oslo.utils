/-
Lemmas for C19: the model of Python's `str.split(sep, maxsplit)` / `sep.join`
(OsloModel/Split.lean, part 1), then `splitPath` and `specSegs` in terms of the pieces of the split.
-/
import OsloModel.Split
namespace Oslo.Split

theorem consHead_ne_nil (c : Char) (l : List (List Char)) : consHead c l ≠ [] := by
  cases l <;> simp [consHead]

theorem consHead_length (c : Char) (l : List (List Char)) (h : l ≠ []) :
    (consHead c l).length = l.length := by
  cases l with
  | nil => exact absurd rfl h
  | cons a t => rfl

theorem take_consHead (c : Char) (l : List (List Char)) (n : Nat) (h : l ≠ []) :
    (consHead c l).take (n + 1) = consHead c (l.take (n + 1)) := by
  cases l with
  | nil => exact absurd rfl h
  | cons a t => rfl

theorem drop_consHead (c : Char) (l : List (List Char)) (n : Nat) (h : l ≠ []) :
    (consHead c l).drop (n + 1) = l.drop (n + 1) := by
  cases l with
  | nil => exact absurd rfl h
  | cons a t => rfl

theorem consHead_append (c : Char) (l m : List (List Char)) (h : l ≠ []) :
    consHead c (l ++ m) = consHead c l ++ m := by
  cases l with
  | nil => exact absurd rfl h
  | cons a t => rfl

theorem pySplit_nil (sep : Char) (n : Nat) : pySplit sep n [] = [[]] := by
  cases n <;> rfl

theorem pySplit_sep_cons (sep : Char) (n : Nat) (r : List Char) :
    pySplit sep (n + 1) (sep :: r) = [] :: pySplit sep n r := by
  rw [pySplit, if_pos rfl]

theorem pySplit_ne_nil (sep : Char) (n : Nat) (s : List Char) : pySplit sep n s ≠ [] := by
  induction s generalizing n with
  | nil => simp [pySplit]
  | cons c r ih =>
    cases n with
    | zero => simp [pySplit]
    | succ n =>
      simp only [pySplit]; split
      · simp
      · exact consHead_ne_nil _ _

theorem splitAll_ne_nil (sep : Char) (s : List Char) : splitAll sep s ≠ [] := by
  induction s with
  | nil => simp [splitAll]
  | cons c r ih =>
    simp only [splitAll]; split
    · simp
    · exact consHead_ne_nil _ _

theorem splitAll_length_pos (sep : Char) (s : List Char) : 0 < (splitAll sep s).length :=
  List.length_pos_iff.mpr (splitAll_ne_nil sep s)

theorem joinSep_consHead (sep c : Char) (l : List (List Char)) (h : l ≠ []) :
    joinSep sep (consHead c l) = c :: joinSep sep l := by
  match l, h with
  | [a], _ => rfl
  | a :: b :: t, _ => rfl

theorem joinSep_cons (sep : Char) (a : List Char) (l : List (List Char)) (h : l ≠ []) :
    joinSep sep (a :: l) = a ++ sep :: joinSep sep l := by
  cases l with
  | nil => exact absurd rfl h
  | cons b t => rfl

theorem joinSep_pySplit (sep : Char) (n : Nat) (s : List Char) :
    joinSep sep (pySplit sep n s) = s := by
  induction s generalizing n with
  | nil => simp [pySplit, joinSep]
  | cons c r ih =>
    cases n with
    | zero => simp [pySplit, joinSep]
    | succ n =>
      simp only [pySplit]; split
      · rename_i h; rw [joinSep_cons _ _ _ (pySplit_ne_nil _ _ _), ih]; simp [h]
      · rw [joinSep_consHead _ _ _ (pySplit_ne_nil _ _ _), ih]

theorem joinSep_splitAll (sep : Char) (s : List Char) : joinSep sep (splitAll sep s) = s := by
  induction s with
  | nil => simp [splitAll, joinSep]
  | cons c r ih =>
    simp only [splitAll]; split
    · rename_i h; rw [joinSep_cons _ _ _ (splitAll_ne_nil _ _), ih]; simp [h]
    · rw [joinSep_consHead _ _ _ (splitAll_ne_nil _ _), ih]

theorem pySplit_length_le (sep : Char) (n : Nat) (s : List Char) :
    (pySplit sep n s).length ≤ n + 1 := by
  induction s generalizing n with
  | nil => simp [pySplit]
  | cons c r ih =>
    cases n with
    | zero => simp [pySplit]
    | succ n =>
      simp only [pySplit]; split
      · exact Nat.succ_le_succ (ih n)
      · rw [consHead_length _ _ (pySplit_ne_nil _ _ _)]; exact ih (n + 1)

theorem splitAll_sep_notMem (sep : Char) (s : List Char) : ∀ p ∈ splitAll sep s, sep ∉ p := by
  induction s with
  | nil => simp [splitAll]
  | cons c r ih =>
    simp only [splitAll]; split
    · intro p hp; simp at hp; rcases hp with rfl | hp
      · simp
      · exact ih p hp
    · rename_i hc
      cases hl : splitAll sep r with
      | nil => exact absurd hl (splitAll_ne_nil _ _)
      | cons a t =>
        rw [hl] at ih
        intro p hp; simp [consHead] at hp; rcases hp with rfl | hp
        · have := ih a (by simp)
          simp; exact ⟨fun h => hc h.symm, this⟩
        · exact ih p (by simp [hp])

theorem joinSep_mem_sep (sep : Char) (a b : List Char) (t : List (List Char)) :
    sep ∈ joinSep sep (a :: b :: t) := by
  simp [joinSep]

theorem joinSep_two_ne_nil (sep : Char) (l : List (List Char)) (h : 2 ≤ l.length) :
    joinSep sep l ≠ [] := by
  match l, h with
  | a :: b :: t, _ => exact List.ne_nil_of_mem (joinSep_mem_sep sep a b t)

theorem joinSep_append_nil (sep : Char) (l : List (List Char)) (h : l ≠ []) :
    joinSep sep (l ++ [[]]) = joinSep sep l ++ [sep] := by
  induction l with
  | nil => exact absurd rfl h
  | cons a t ih =>
    cases t with
    | nil => simp [joinSep]
    | cons b t =>
      have := ih (by simp)
      simp only [List.cons_append] at this ⊢
      simp [joinSep, this]

theorem pySplit_eq (sep : Char) (n : Nat) (s : List Char) :
    pySplit sep n s = (splitAll sep s).take n ++
      if (splitAll sep s).length ≤ n then [] else [joinSep sep ((splitAll sep s).drop n)] := by
  induction s generalizing n with
  | nil => cases n <;> simp [pySplit, splitAll, joinSep]
  | cons c r ih =>
    cases n with
    | zero => simp [pySplit, joinSep_splitAll, splitAll_ne_nil]
    | succ n =>
      have hne := splitAll_ne_nil sep r
      simp only [pySplit, splitAll]; split
      · rw [ih n]; simp
      · rw [ih (n + 1), consHead_length _ _ hne, take_consHead _ _ _ hne, drop_consHead _ _ _ hne,
          consHead_append]
        exact fun hh => hne (List.take_eq_nil_iff.mp hh |>.resolve_left (Nat.succ_ne_zero n))

theorem pySplit_eq_fold (sep : Char) (n : Nat) (s : List Char)
    (h : n < (splitAll sep s).length) :
    pySplit sep n s =
      (splitAll sep s).take n ++ [joinSep sep ((splitAll sep s).drop n)] := by
  rw [pySplit_eq, if_neg (Nat.not_le.mpr h)]

theorem pySplit_eq_splitAll (sep : Char) (n : Nat) (s : List Char)
    (h : (splitAll sep s).length ≤ n + 1) : pySplit sep n s = splitAll sep s := by
  rw [pySplit_eq]
  split
  · rename_i hl; rw [List.take_of_length_le hl, List.append_nil]
  · rename_i hl
    have hn : n < (splitAll sep s).length := Nat.lt_of_not_le hl
    rw [List.drop_eq_getElem_cons hn, List.drop_of_length_le h, joinSep, List.take_append_getElem hn,
      List.take_of_length_le h]

theorem pySplit_head_cons (sep : Char) (n : Nat) (c : Char) (r : List Char) (hc : c ≠ sep) :
    ∃ h t, pySplit sep n (c :: r) = (c :: h) :: t := by
  cases n with
  | zero => exact ⟨r, [], by simp [pySplit]⟩
  | succ n =>
    simp only [pySplit, hc, if_false]
    cases hl : pySplit sep (n + 1) r with
    | nil => exact absurd hl (pySplit_ne_nil _ _ _)
    | cons a t => exact ⟨a, t, rfl⟩

theorem splitAll_append_sep (sep : Char) (s : List Char) :
    splitAll sep (s ++ [sep]) = splitAll sep s ++ [[]] := by
  induction s with
  | nil => simp [splitAll]
  | cons c r ih =>
    simp only [List.cons_append, splitAll]; split
    · rw [ih]; simp
    · rw [ih, consHead_append _ _ _ (splitAll_ne_nil _ _)]

theorem slice_cons {α} (a : α) (l : List α) (n : Nat) : slice (a :: l) 1 (n + 1) = l.take n := by
  simp [slice]

theorem finish_length (segs : List (List Char)) (M : Nat) : (finish segs M).length = M - 1 := by
  simp only [finish, List.length_append, List.length_map, List.length_replicate]
  refine Nat.add_sub_cancel' ?_
  simp only [slice, List.length_drop, List.length_take]
  exact Nat.sub_le_sub_right (Nat.min_le_left _ _) 1

theorem finish_cons (a : List Char) (P : List (List Char)) (m : Nat) :
    finish (a :: P) (m + 1) = (P.take m).map some ++ List.replicate (m - (P.take m).length) none := by
  simp only [finish, slice_cons, Nat.add_sub_cancel]

/-- With `s0 :: P` the pieces of the split: the checks of lines 572-573 / 580-582 on `s0` and `P`.
    The split yields at most `maxsegs + 1` (`+ 2` without `rest_with_last`) pieces, so the upper
    bounds on `count` never fire and the two `IndexError` leaves of the model are dead. -/
theorem splitPath_of_pieces {path : List Char} {minsegs : Nat} {maxsegs : Option Nat} {rwl : Bool}
    {s0 : List Char} {P : List (List Char)} (hm : minsegs ≤ effMax minsegs maxsegs)
    (hs : pySplit '/' (if rwl then effMax minsegs maxsegs else effMax minsegs maxsegs + 1) path = s0 :: P) :
    splitPath path minsegs maxsegs rwl =
      if s0 ≠ [] ∨ P.length < minsegs ∨ [] ∈ P.take minsegs ∨
          (effMax minsegs maxsegs < P.length ∧ P[effMax minsegs maxsegs]? ≠ some [])
      then .error .valueError else .ok (finish (s0 :: P) (effMax minsegs maxsegs + 1)) := by
  have hlen := hs ▸ pySplit_length_le '/' _ path
  rw [splitPath, if_neg (Nat.not_lt.mpr hm)]
  generalize effMax minsegs maxsegs = m at *
  cases rwl
  · rw [if_neg Bool.false_ne_true] at hs hlen ⊢
    simp only [hs, List.head?_cons, List.length_cons, slice_cons, List.getElem?_cons_succ] at hlen ⊢
    grind
  · rw [if_pos rfl] at hs hlen ⊢
    simp only [hs, List.head?_cons, List.length_cons, slice_cons] at hlen ⊢
    simp only [Nat.add_lt_add_iff_right, gt_iff_lt, Nat.not_lt.mpr (Nat.le_of_succ_le_succ hlen),
      false_or, false_and, or_false]

theorem splitPath_error_or_finish (path : List Char) (minsegs : Nat) (maxsegs : Option Nat) (rwl : Bool) :
    splitPath path minsegs maxsegs rwl = .error .valueError ∨
      ∃ segs, splitPath path minsegs maxsegs rwl = .ok (finish segs (effMax minsegs maxsegs + 1)) := by
  rcases Nat.lt_or_ge (effMax minsegs maxsegs) minsegs with hm | hm
  · exact Or.inl (by rw [splitPath, if_pos hm])
  · obtain ⟨s0, P, hs⟩ := List.exists_cons_of_ne_nil (pySplit_ne_nil '/'
      (if rwl then effMax minsegs maxsegs else effMax minsegs maxsegs + 1) path)
    rw [splitPath_of_pieces hm hs]
    split
    · exact Or.inl rfl
    · exact Or.inr ⟨_, rfl⟩

theorem pySplit_slash (rest : List Char) (m : Nat) (rwl : Bool) (hm : 1 ≤ m) :
    pySplit '/' (if rwl then m else m + 1) ('/' :: rest) =
      [] :: pySplit '/' (if rwl then m - 1 else m) rest := by
  obtain ⟨m, rfl⟩ : ∃ k, m = k + 1 := ⟨m - 1, (Nat.sub_add_cancel hm).symm⟩
  cases rwl <;> exact pySplit_sep_cons _ _ _

theorem specSegs_of_length_le {all : List (List Char)} {m : Nat} (rwl : Bool) (h : all.length ≤ m) :
    specSegs all m rwl = some all := by
  cases rwl <;> simp [specSegs, h, Nat.not_lt.mpr h]

theorem specSegs_some {all segs : List (List Char)} {m : Nat} {rwl : Bool}
    (h : specSegs all m rwl = some segs) :
    segs.length ≤ all.length ∧
      segs.take (if rwl then m - 1 else m) = all.take (if rwl then m - 1 else m) := by
  cases rwl with
  | true =>
    rw [specSegs, if_pos rfl] at h
    split at h <;> cases h
    · rename_i hlt
      have hl := List.length_take_of_le (Nat.le_trans (Nat.sub_le m 1) (Nat.le_of_lt hlt))
      refine ⟨?_, List.take_left' hl⟩
      rw [List.length_append, hl]
      exact Nat.lt_of_le_of_lt (Nat.sub_le m 1) hlt
    · exact ⟨Nat.le_refl _, rfl⟩
  | false =>
    rw [specSegs, if_neg Bool.false_ne_true] at h
    split at h
    · cases h; exact ⟨Nat.le_refl _, rfl⟩
    · split at h <;> cases h
      exact ⟨List.length_take_le' _ _, by rw [if_neg Bool.false_ne_true, List.take_take, Nat.min_self]⟩

/-- The specification's segments are the first `m` pieces of the split the code makes of the text
    after the leading slash, unless there is a non-empty piece at position `m + 1`: with
    `rest_with_last` there never is one; without it that piece is an unsplit remainder or a single
    further segment. -/
theorem specSegs_splitAll (rest : List Char) (m : Nat) (rwl : Bool) (hm : 1 ≤ m) :
    specSegs (splitAll '/' rest) m rwl =
      if m < (pySplit '/' (if rwl then m - 1 else m) rest).length ∧
          (pySplit '/' (if rwl then m - 1 else m) rest)[m]? ≠ some [] then none
      else some ((pySplit '/' (if rwl then m - 1 else m) rest).take m) := by
  cases rwl with
  | true =>
    have hl : (pySplit '/' (m - 1) rest).length ≤ m :=
      Nat.sub_add_cancel hm ▸ pySplit_length_le '/' (m - 1) rest
    rw [if_pos rfl, if_neg (fun h => Nat.not_lt.mpr hl h.1), List.take_of_length_le hl, specSegs,
      if_pos rfl]
    split
    · rename_i h
      rw [pySplit_eq_fold '/' (m - 1) rest (Nat.lt_of_le_of_lt (Nat.sub_le m 1) h)]
    · rename_i h
      rw [pySplit_eq_splitAll '/' (m - 1) rest ((Nat.sub_add_cancel hm).symm ▸ Nat.le_of_not_lt h)]
  | false =>
    rw [specSegs, if_neg Bool.false_ne_true, if_neg Bool.false_ne_true]
    by_cases ha : (splitAll '/' rest).length ≤ m + 1
    · rw [pySplit_eq_splitAll '/' m rest ha]
      by_cases hb : (splitAll '/' rest).length ≤ m
      · rw [if_pos hb, if_neg (fun h => Nat.not_lt.mpr hb h.1), List.take_of_length_le hb]
      · have he : (splitAll '/' rest).length = m + 1 := Nat.le_antisymm ha (Nat.lt_of_not_le hb)
        simp only [he, true_and, List.getLast?_eq_getElem?, Nat.add_sub_cancel, Nat.lt_succ_self,
          Nat.not_succ_le_self, if_false, ite_not]
    · -- more than `m + 1` pieces: position `m` holds the unsplit remainder, which contains a `/`
      have hlt : m + 1 < (splitAll '/' rest).length := Nat.lt_of_not_le ha
      have hj : joinSep '/' ((splitAll '/' rest).drop m) ≠ [] :=
        joinSep_two_ne_nil _ _ (by rw [List.length_drop]; omega)
      have hl := List.length_take_of_le (Nat.le_of_lt (Nat.lt_of_succ_lt hlt))
      have hg := List.getElem?_concat_length (l := (splitAll '/' rest).take m)
        (a := joinSep '/' ((splitAll '/' rest).drop m))
      rw [hl] at hg
      rw [pySplit_eq_fold '/' m rest (Nat.lt_of_succ_lt hlt), hg,
        if_neg (fun h => ha (Nat.le_succ_of_le h)), if_neg (fun h => Nat.ne_of_gt hlt h.1),
        List.length_append, hl, if_pos ⟨Nat.lt_succ_self m, fun h => hj (Option.some.inj h)⟩]

theorem specSegs_splitAll_some (rest : List Char) (m : Nat) (rwl : Bool) (segs : List (List Char)) (hm : 1 ≤ m)
    (h : specSegs (splitAll '/' rest) m rwl = some segs) :
    segs.length ≤ m ∧
    (joinSep '/' segs = rest ∨ (rwl = false ∧ segs.length = m ∧ joinSep '/' segs ++ ['/'] = rest)) ∧
    (∀ s ∈ segs.take (if rwl then m - 1 else m), '/' ∉ s) := by
  have hk := (specSegs_some h).2
  rw [specSegs_splitAll rest m rwl hm] at h
  have hj := joinSep_pySplit '/' (if rwl then m - 1 else m) rest
  have hlen : (pySplit '/' (if rwl then m - 1 else m) rest).length ≤ if rwl then m else m + 1 := by
    cases rwl
    · exact pySplit_length_le '/' m rest
    · exact Nat.sub_add_cancel hm ▸ pySplit_length_le '/' (m - 1) rest
  generalize pySplit '/' (if rwl then m - 1 else m) rest = Q at h hj hlen
  split at h <;> cases h
  rename_i hD
  refine ⟨List.length_take_le _ _, ?_,
    fun s hs => splitAll_sep_notMem '/' rest s (List.mem_of_mem_take (hk ▸ hs))⟩
  by_cases hl : Q.length ≤ m
  · rw [List.take_of_length_le hl]; exact Or.inl hj
  · -- one piece too many: it is empty, so the text ends with the slash that made it
    cases rwl
    · have hQ : m < Q.length := Nat.lt_of_not_le hl
      obtain ⟨_, hg⟩ := List.getElem?_eq_some_iff.mp (Decidable.not_not.mp (not_and.mp hD hQ))
      have hT := List.take_succ_eq_append_getElem hQ
      rw [List.take_of_length_le (show Q.length ≤ m + 1 from hlen), hg] at hT
      have hlm := List.length_take_of_le (Nat.le_of_lt hQ)
      have hne : Q.take m ≠ [] := List.ne_nil_of_length_pos (hlm.symm ▸ hm)
      refine Or.inr ⟨rfl, hlm, ?_⟩
      rw [← joinSep_append_nil _ _ hne, ← hT]; exact hj
    · exact absurd hlen hl

theorem splitPathSpec_ok (path : List Char) (minsegs : Nat) (maxsegs : Option Nat) (rwl : Bool) (r : List Seg)
    (h : splitPathSpec path minsegs maxsegs rwl = .ok r) :
    minsegs ≤ effMax minsegs maxsegs ∧ ∃ rest segs, path = '/' :: rest ∧
      specSegs (splitAll '/' rest) (effMax minsegs maxsegs) rwl = some segs ∧
      minsegs ≤ segs.length ∧ [] ∉ segs.take minsegs ∧
      r = segs.map some ++ List.replicate (effMax minsegs maxsegs - segs.length) none := by
  unfold splitPathSpec at h
  simp only at h
  rcases Nat.lt_or_ge (effMax minsegs maxsegs) minsegs with hm | hm
  · rw [if_pos hm] at h; cases h
  rw [if_neg (Nat.not_lt.mpr hm)] at h
  refine ⟨hm, ?_⟩
  match path with
  | [] => cases h
  | c :: rest =>
    by_cases hc : c = '/'
    · subst hc
      refine ⟨rest, ?_⟩
      simp only [if_true] at h
      cases hs : specSegs (splitAll '/' rest) (effMax minsegs maxsegs) rwl with
      | none => simp only [hs] at h; cases h
      | some segs =>
        simp only [hs] at h
        refine ⟨segs, rfl, rfl, ?_⟩
        split at h <;> cases h
        rename_i hcond
        exact ⟨Nat.le_of_not_lt fun hh => hcond (Or.inl hh), fun hh => hcond (Or.inr hh), rfl⟩
    · simp only [if_neg hc] at h; cases h

end Oslo.Split
