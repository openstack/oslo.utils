/-
Lemmas about the flat regex engine (OsloModel/FlatRegex.lean): a test on range tables for disjoint
classes; the backtracking loop `tryDown`; `Greedy`, the split of a text that the matcher tries first, and
`Consumes`, what any successful match says about the text, each with the lemmas through which the
templates of C04 are handled item by item; the `re.sub` loop on a prefix without matches, at a match, and on a text without matches.
-/
import OsloModel.FlatRegex
namespace Oslo.Flat

theorem tryDown_first {α} (k : List Char → Option α) (s : List Char) (lo n : Nat) (r : α)
    (hlo : lo ≤ n) (hk : k (s.drop n) = some r) : tryDown k s lo n = some r := by
  cases n with
  | zero => simp at hlo; subst hlo; simpa [tryDown] using hk
  | succ n =>
    have : ¬ (n + 1 < lo) := by omega
    simp [tryDown, this, hk]

theorem tryDown_some {α} (k : List Char → Option α) (s : List Char) (lo : Nat) :
    ∀ (n : Nat) (r : α), tryDown k s lo n = some r → ∃ j, lo ≤ j ∧ j ≤ n ∧ k (s.drop j) = some r := by
  intro n
  induction n with
  | zero =>
    intro r h
    by_cases h0 : lo = 0
    · subst h0; exact ⟨0, by omega, by omega, by simpa [tryDown] using h⟩
    · simp [tryDown, h0] at h
  | succ n ih =>
    intro r h
    unfold tryDown at h
    by_cases hlt : n + 1 < lo
    · simp [hlt] at h
    · simp only [hlt, if_false] at h
      cases hk : k (s.drop (n + 1)) with
      | some r' =>
        rw [hk] at h; cases h
        exact ⟨n + 1, by omega, by omega, hk⟩
      | none =>
        rw [hk] at h
        obtain ⟨j, h1, h2, h3⟩ := ih r h
        exact ⟨j, h1, by omega, h3⟩

theorem tryDown_none {α} (k : List Char → Option α) (s : List Char) (lo : Nat) :
    ∀ (n : Nat), (∀ j, lo ≤ j → j ≤ n → k (s.drop j) = none) → tryDown k s lo n = none := by
  intro n h
  cases hr : tryDown k s lo n with
  | none => rfl
  | some r =>
    obtain ⟨j, h1, h2, h3⟩ := tryDown_some k s lo n r hr
    rw [h j h1 h2] at h3; cases h3

theorem tryDown_backtrack {α} (k : List Char → Option α) (s : List Char) (lo m : Nat) (v : α)
    (hlo : lo ≤ m) (hk : k (s.drop m) = some v) :
    ∀ (n : Nat), m ≤ n → (∀ j, m < j → j ≤ n → k (s.drop j) = none) → tryDown k s lo n = some v := by
  intro n
  induction n with
  | zero =>
    intro hmn _
    have : m = 0 := by omega
    subst this
    exact tryDown_first k s lo 0 v hlo hk
  | succ n ih =>
    intro hmn hnone
    by_cases hm : m = n + 1
    · subst hm; exact tryDown_first k s lo _ v hlo hk
    · have h1 : k (s.drop (n + 1)) = none := hnone (n + 1) (by omega) (Nat.le_refl _)
      have h2 : ¬ (n + 1 < lo) := by omega
      simp only [tryDown, h2, if_false, h1]
      exact ih (by omega) (fun j hj1 hj2 => hnone j hj1 (by omega))

/-! ### classes: disjointness read off the range tables -/

theorem inRanges_iff (n : Nat) : ∀ (a : List (Nat × Nat)), inRanges n a = true ↔ ∃ r ∈ a, r.1 ≤ n ∧ n ≤ r.2 := by
  intro a
  induction a with
  | nil => simp [inRanges]
  | cons x a ih => obtain ⟨lo, hi⟩ := x; simp [inRanges, ih]

theorem test_ncls (r : List (Nat × Nat)) (a : Char) : (ncls r).test a = !(cls r).test a := by
  simp [Cls.test, ncls, cls]

/-- no range of `a` overlaps a range of `b` -/
def rangesApart (a b : List (Nat × Nat)) : Bool :=
  a.all fun r => b.all fun r' => decide (r.2 < r'.1) || decide (r'.2 < r.1)

/-- every range of `a` lies inside one range of `b` -/
def rangesWithin (a b : List (Nat × Nat)) : Bool :=
  a.all fun r => b.any fun r' => decide (r'.1 ≤ r.1) && decide (r.2 ≤ r'.2)

/-- a sufficient test on the range tables for "no character is in both classes" -/
def Cls.excludes (c d : Cls) : Bool :=
  match c.neg, d.neg with
  | false, false => rangesApart c.ranges d.ranges
  | false, true => rangesWithin c.ranges d.ranges
  | true, false => rangesWithin d.ranges c.ranges
  | true, true => false

theorem inRanges_apart {n : Nat} {a b : List (Nat × Nat)} (h : rangesApart a b = true)
    (ha : inRanges n a = true) : inRanges n b = false := by
  cases hb : inRanges n b with
  | false => rfl
  | true =>
    obtain ⟨r, hr, h1, h2⟩ := (inRanges_iff n a).1 ha
    obtain ⟨r', hr', h3, h4⟩ := (inRanges_iff n b).1 hb
    have := List.all_eq_true.1 (List.all_eq_true.1 h r hr) r' hr'
    simp only [Bool.or_eq_true, decide_eq_true_eq] at this
    omega

theorem inRanges_within {n : Nat} {a b : List (Nat × Nat)} (h : rangesWithin a b = true)
    (ha : inRanges n a = true) : inRanges n b = true := by
  obtain ⟨r, hr, h1, h2⟩ := (inRanges_iff n a).1 ha
  obtain ⟨r', hr', h3⟩ := List.any_eq_true.1 (List.all_eq_true.1 h r hr)
  simp only [Bool.and_eq_true, decide_eq_true_eq] at h3
  exact (inRanges_iff n b).2 ⟨r', hr', by omega, by omega⟩

theorem Cls.excludes_sound {c d : Cls} (h : c.excludes d = true) {a : Char} (ha : c.test a = true) :
    d.test a = false := by
  obtain ⟨cn, cr⟩ := c
  obtain ⟨dn, dr⟩ := d
  cases cn <;> cases dn <;> simp only [Cls.excludes, Cls.test, Bool.false_eq_true] at h ha ⊢
  · simpa using inRanges_apart h (by simpa using ha)
  · simpa using inRanges_within h (by simpa using ha)
  · cases hd : inRanges a.toNat dr with
    | false => rfl
    | true => rw [inRanges_within h hd] at ha; cases ha

/-- the text `t` does not go on with a character of class `c`: a run of `c` stops in front of it -/
def StopsAt (c : Cls) (t : List Char) : Prop := ∀ a, t.head? = some a → c.test a = false

theorem StopsAt.cons {c : Cls} {a : Char} {t : List Char} (h : c.test a = false) : StopsAt c (a :: t) := by
  intro b hb; cases hb; exact h

theorem StopsAt.cons_of {c d : Cls} {a : Char} {t : List Char} (ha : d.test a = true)
    (hd : d.excludes c = true) : StopsAt c (a :: t) :=
  .cons (Cls.excludes_sound hd ha)

/-- in front of a run `r` of another class; what follows `r` matters only if `r` is empty -/
theorem StopsAt.append {c d : Cls} {r t : List Char} (hr : ∀ x ∈ r, d.test x = true) (hd : d.excludes c = true)
    (ht : r = [] → StopsAt c t) : StopsAt c (r ++ t) := by
  cases r with
  | nil => exact ht rfl
  | cons x r => exact .cons_of (hr x (by simp)) hd

/-- the run an item takes on `seg ++ s` when `seg` is in its class and either fills its upper bound or is
    not continued by `s` -/
theorem run_eq (it : Item) (seg s : List Char) (hseg : ∀ c ∈ seg, it.cls.test c = true)
    (hhi : ∀ m, it.hi = some m → seg.length ≤ m) (hmax : it.hi = some seg.length ∨ StopsAt it.cls s) :
    it.run (seg ++ s) = seg.length := by
  unfold Item.run
  rw [List.takeWhile_append_of_pos hseg, List.length_append]
  rcases hmax with h | h
  · simp only [h]; omega
  · have h0 : s.takeWhile it.cls.test = [] := by
      cases s with
      | nil => rfl
      | cons a s => simp [List.takeWhile, h a rfl]
    rw [h0]
    cases hh : it.hi with
    | none => rfl
    | some m => have := hhi m hh; simp only [List.length_nil]; omega

theorem matchSeq_append {α} (a b : List Item) (k : List Char → Option α) (s : List Char) :
    matchSeq (a ++ b) k s = matchSeq a (matchSeq b k) s := by
  induction a generalizing s with
  | nil => rfl
  | cons it a ih =>
    simp only [List.cons_append, matchSeq]
    congr 1
    funext s'
    exact ih s'

theorem matchSeq_one {α} (c : Cls) (rest : List Item) (k : List Char → Option α) (s : List Char) :
    matchSeq (⟨c, 1, some 1⟩ :: rest) k s =
      match s with
      | [] => none
      | a :: t => if c.test a then matchSeq rest k t else none := by
  cases s with
  | nil => simp [matchSeq, Item.run, tryDown]
  | cons a t =>
    by_cases ha : c.test a = true
    · have hrun : (⟨c, 1, some 1⟩ : Item).run (a :: t) = 1 := by
        simp only [Item.run, List.takeWhile, ha]
        simp only [List.length_cons]; omega
      simp only [matchSeq, hrun, ha, if_true]
      cases hk : matchSeq rest k t with
      | some r => simp [tryDown, hk]
      | none => simp [tryDown, hk]
    · have hrun : (⟨c, 1, some 1⟩ : Item).run (a :: t) = 0 := by
        simp [Item.run, List.takeWhile, ha]
      simp [matchSeq, hrun, ha, tryDown]

/-- `items` match a prefix of `s` and leave `s'`, each item taking the longest run it can: the split that
    CPython's greedy matcher tries first.  One constructor application per item of a template, each saying
    why the run ends where it does. -/
inductive Greedy : List Item → List Char → List Char → Prop
  | nil (s : List Char) : Greedy [] s s
  | cons (it : Item) (rest : List Item) (seg s1 s' : List Char)
      (hseg : ∀ c ∈ seg, it.cls.test c = true) (hlo : it.lo ≤ seg.length)
      (hhi : ∀ m, it.hi = some m → seg.length ≤ m) (hmax : it.hi = some seg.length ∨ StopsAt it.cls s1)
      (hrest : Greedy rest s1 s') : Greedy (it :: rest) (seg ++ s1) s'

/-- **greedy-first lemma**: if the continuation accepts what the greedy split leaves, there is no backtracking -/
theorem matchSeq_of_greedy {α} {items : List Item} {s s' : List Char} {k : List Char → Option α} {v : α}
    (h : Greedy items s s') (hk : k s' = some v) : matchSeq items k s = some v := by
  induction h with
  | nil => exact hk
  | cons it rest seg s1 s' hseg hlo hhi hmax _ ih =>
    rw [matchSeq, run_eq it seg s1 hseg hhi hmax]
    exact tryDown_first _ _ _ _ _ hlo (by rw [List.drop_left]; exact ih hk)

section
variable {c : Cls} {rest : List Item} {a : Char} {r s s' : List Char}

theorem Greedy.one (ha : c.test a = true) (h : Greedy rest s s') : Greedy (⟨c, 1, some 1⟩ :: rest) (a :: s) s' :=
  .cons _ rest [a] s s' (by simpa using ha) (Nat.le_refl 1) (by simp) (.inl rfl) h

theorem Greedy.star (hr : ∀ x ∈ r, c.test x = true) (hs : StopsAt c s) (h : Greedy rest s s') :
    Greedy (⟨c, 0, none⟩ :: rest) (r ++ s) s' :=
  .cons _ rest r s s' hr (Nat.zero_le _) (by simp) (.inr hs) h

theorem Greedy.plus (hne : r ≠ []) (hr : ∀ x ∈ r, c.test x = true) (hs : StopsAt c s) (h : Greedy rest s s') :
    Greedy (⟨c, 1, none⟩ :: rest) (r ++ s) s' :=
  .cons _ rest r s s' hr (List.length_pos_iff.2 hne) (by simp) (.inr hs) h

theorem Greedy.exact {m : Nat} (hr : ∀ x ∈ r, c.test x = true) (hm : r.length = m) (h : Greedy rest s s') :
    Greedy (⟨c, m, some m⟩ :: rest) (r ++ s) s' :=
  hm ▸ .cons _ rest r s s' hr (Nat.le_refl _) (fun _ h => Option.some.inj h ▸ Nat.le_refl _) (.inl rfl) h

theorem test_of_opt {c : Cls} {r : List Char} (hr : r = [] ∨ ∃ x, r = [x] ∧ c.test x = true) :
    ∀ x ∈ r, c.test x = true := by
  rcases hr with rfl | ⟨x, rfl, hx⟩
  · simp
  · simpa using hx

theorem Greedy.opt (hr : r = [] ∨ ∃ x, r = [x] ∧ c.test x = true) (hs : r = [] → StopsAt c s)
    (h : Greedy rest s s') : Greedy (⟨c, 0, some 1⟩ :: rest) (r ++ s) s' := by
  rcases hr with rfl | ⟨x, rfl, hx⟩
  · exact .cons _ rest [] s s' (by simp) (Nat.le_refl 0) (by simp) (.inr (hs rfl)) h
  · exact .cons _ rest [x] s s' (by simpa using hx) (Nat.zero_le _) (by simp) (.inl rfl) h

end

/-- a greedy repeat that has to give back characters: the continuation fails after every longer run and
    succeeds after `m` characters -/
theorem matchSeq_cons_backtrack {α} (it : Item) (rest : List Item) (k : List Char → Option α)
    (r t : List Char) (v : α) (m : Nat) (hhi : it.hi = none) (hlo : it.lo ≤ m) (hm : m ≤ r.length)
    (hr : ∀ c ∈ r, it.cls.test c = true) (ht : StopsAt it.cls t)
    (hnone : ∀ j, m < j → j ≤ r.length → matchSeq rest k ((r ++ t).drop j) = none)
    (hk : matchSeq rest k ((r ++ t).drop m) = some v) : matchSeq (it :: rest) k (r ++ t) = some v := by
  rw [matchSeq, run_eq it r t hr (by simp [hhi]) (.inr ht)]
  exact tryDown_backtrack _ _ _ m v hlo hk r.length hm hnone

/-- `s` starts with segments matching `items` one by one, leaving `s'` -/
inductive Consumes : List Item → List Char → List Char → Prop
  | nil (s : List Char) : Consumes [] s s
  | cons (it : Item) (rest : List Item) (seg s1 s' : List Char)
      (hseg : ∀ c ∈ seg, it.cls.test c = true) (hlo : it.lo ≤ seg.length)
      (hhi : ∀ m, it.hi = some m → seg.length ≤ m)
      (hrest : Consumes rest s1 s') : Consumes (it :: rest) (seg ++ s1) s'

theorem take_all_of_le_run (it : Item) (s : List Char) (j : Nat) (hj : j ≤ it.run s) :
    ∀ c ∈ s.take j, it.cls.test c = true := by
  intro c hc
  have hle : j ≤ (s.takeWhile it.cls.test).length := by
    unfold Item.run at hj
    cases h : it.hi with
    | none => simpa [h] using hj
    | some m => simp only [h] at hj; omega
  have hpre : s.take j = (s.takeWhile it.cls.test).take j := by
    have h1 : s = s.takeWhile it.cls.test ++ s.dropWhile it.cls.test := List.takeWhile_append_dropWhile.symm
    conv => lhs; rw [h1]
    rw [List.take_append_of_le_length hle]
  rw [hpre] at hc
  exact List.all_eq_true.1 List.all_takeWhile c (List.mem_of_mem_take hc)

theorem run_le_length (it : Item) (s : List Char) : it.run s ≤ s.length := by
  have := (List.takeWhile_prefix (l := s) it.cls.test).length_le
  unfold Item.run
  cases it.hi with
  | none => simpa using this
  | some m => simp only; omega

theorem matchSeq_some {α} (items : List Item) (k : List Char → Option α) :
    ∀ (s : List Char) (v : α), matchSeq items k s = some v → ∃ s', Consumes items s s' ∧ k s' = some v := by
  induction items with
  | nil => intro s v h; exact ⟨s, .nil s, h⟩
  | cons it rest ih =>
    intro s v h
    simp only [matchSeq] at h
    obtain ⟨j, hlo, hj, hk⟩ := tryDown_some _ _ _ _ _ h
    obtain ⟨s', hc, hk'⟩ := ih _ _ hk
    refine ⟨s', ?_, hk'⟩
    have hs : s = s.take j ++ s.drop j := (List.take_append_drop j s).symm
    rw [hs]
    have hlen := run_le_length it s
    refine .cons it rest _ _ _ (take_all_of_le_run it s j hj) ?_ ?_ hc
    · simp [List.length_take]; omega
    · intro m hm
      have : it.run s ≤ m := by
        unfold Item.run; simp only [hm]; omega
      simp [List.length_take]; omega

theorem Consumes.length_le {items s s'} (h : Consumes items s s') : s'.length ≤ s.length := by
  induction h with
  | nil => exact Nat.le_refl _
  | cons it rest seg s1 s' _ _ _ _ ih => simp; omega

theorem Consumes.append {a b s s1 s2} (h1 : Consumes a s s1) (h2 : Consumes b s1 s2) :
    Consumes (a ++ b) s s2 := by
  induction h1 with
  | nil => exact h2
  | cons it rest seg s1 s' hseg hlo hhi _ ih => exact .cons it _ seg s1 _ hseg hlo hhi (ih h2)

theorem Consumes.split {a b : List Item} : ∀ {s s2}, Consumes (a ++ b) s s2 →
    ∃ s1, Consumes a s s1 ∧ Consumes b s1 s2 := by
  induction a with
  | nil => intro s s2 h; exact ⟨s, .nil s, h⟩
  | cons it a ih =>
    intro s s2 h
    cases h with
    | cons _ _ seg s1 _ hseg hlo hhi hrest =>
      obtain ⟨m, h1, h2⟩ := ih hrest
      exact ⟨m, .cons it a seg s1 m hseg hlo hhi h1, h2⟩

theorem Consumes.suffix {items s s'} (h : Consumes items s s') : ∃ a, s = a ++ s' := by
  induction h with
  | nil s => exact ⟨[], rfl⟩
  | cons it rest seg s1 s' _ _ _ _ ih =>
    obtain ⟨a, ha⟩ := ih
    exact ⟨seg ++ a, by rw [ha, List.append_assoc]⟩

theorem Consumes.exists_mem {items s s'} (h : Consumes items s s') (it : Item) (hit : it ∈ items)
    (hlo : 1 ≤ it.lo) : ∃ x c, s = x ++ s' ∧ c ∈ x ∧ it.cls.test c = true := by
  induction h with
  | nil => simp at hit
  | cons it' rest seg s1 s' hseg hlo' _ hrest ih =>
    rcases List.mem_cons.1 hit with h | h
    · subst h
      obtain ⟨x, hx⟩ := hrest.suffix
      cases seg with
      | nil => simp at hlo'; omega
      | cons y ys => exact ⟨(y :: ys) ++ x, y, by rw [hx, List.append_assoc], by simp, hseg y (by simp)⟩
    · obtain ⟨x, c, hx, hc, ht⟩ := ih h
      exact ⟨seg ++ x, c, by rw [hx, List.append_assoc], by simp [hc], ht⟩

theorem Consumes.nil_inv {s s' : List Char} (h : Consumes [] s s') : s = s' := by
  cases h; rfl

theorem Consumes.cons_inv {it : Item} {rest : List Item} {s s' : List Char}
    (h : Consumes (it :: rest) s s') : ∃ seg s1, s = seg ++ s1 ∧ (∀ c ∈ seg, it.cls.test c = true) ∧
      it.lo ≤ seg.length ∧ (∀ m, it.hi = some m → seg.length ≤ m) ∧ Consumes rest s1 s' := by
  cases h with
  | cons _ _ seg s1 _ hseg hlo hhi hrest => exact ⟨seg, s1, rfl, hseg, hlo, hhi, hrest⟩

theorem Consumes.one_inv {c : Cls} {rest : List Item} {s s' : List Char}
    (h : Consumes (⟨c, 1, some 1⟩ :: rest) s s') : ∃ a t, s = a :: t ∧ c.test a = true ∧ Consumes rest t s' := by
  obtain ⟨seg, s1, rfl, hseg, hlo, hhi, hrest⟩ := h.cons_inv
  cases seg with
  | nil => simp at hlo
  | cons a seg =>
    cases seg with
    | nil => exact ⟨a, s1, rfl, hseg a (by simp), hrest⟩
    | cons b seg => have := hhi 1 rfl; simp at this

theorem Consumes.one_head {c : Cls} {rest : List Item} {a : Char} {t s' : List Char}
    (h : Consumes (⟨c, 1, some 1⟩ :: rest) (a :: t) s') : c.test a = true ∧ Consumes rest t s' := by
  obtain ⟨b, u, hs, hb, hr⟩ := h.one_inv
  cases hs; exact ⟨hb, hr⟩

theorem Consumes.head_test {it : Item} {rest : List Item} {a : Char} {t s' : List Char}
    (h : Consumes (it :: rest) (a :: t) s') (hlo : 1 ≤ it.lo) : it.cls.test a = true := by
  obtain ⟨seg, s1, hs, hseg, hl, _, _⟩ := h.cons_inv
  cases seg with
  | nil => simp at hl; omega
  | cons x xs => cases hs; exact hseg _ (by simp)

theorem Consumes.prefix_inv {it : Item} {rest : List Item} {r t s' : List Char}
    (h : Consumes (it :: rest) (r ++ t) s') (ht : StopsAt it.cls t) :
    ∃ j, it.lo ≤ j ∧ j ≤ r.length ∧ Consumes rest (r.drop j ++ t) s' := by
  obtain ⟨seg, s1, hs, hseg, hlo, _, hrest⟩ := h.cons_inv
  rcases List.append_eq_append_iff.1 hs with ⟨a', rfl, rfl⟩ | ⟨c', rfl, rfl⟩
  · cases a' with
    | nil => exact ⟨r.length, by simpa using hlo, Nat.le_refl _, by simpa using hrest⟩
    | cons x xs => have := ht x rfl; rw [hseg x (by simp)] at this; cases this
  · exact ⟨seg.length, hlo, by simp, by simpa using hrest⟩

/-- no match of `items` starts with a character of class `c`: every item up to and including the first
    mandatory one has a class that excludes `c` -/
def cantStart (c : Cls) : List Item → Bool
  | [] => false
  | it :: rest => it.cls.excludes c && (decide (1 ≤ it.lo) || cantStart c rest)

theorem Consumes.cantStart_eq_false {c : Cls} {a : Char} (ha : c.test a = true) :
    ∀ {items : List Item} {t s' : List Char}, Consumes items (a :: t) s' → cantStart c items = false := by
  intro items
  induction items with
  | nil => intros; rfl
  | cons it rest ih =>
    intro t s' h
    obtain ⟨seg, s1, hs, hseg, hlo, _, hrest⟩ := h.cons_inv
    cases hx : it.cls.excludes c with
    | false => simp [cantStart, hx]
    | true =>
      cases seg with
      | nil =>
        subst hs
        have h0 : ¬ (1 ≤ it.lo) := by simp at hlo; omega
        simp [cantStart, h0, ih hrest]
      | cons x xs =>
        cases hs
        rw [Cls.excludes_sound hx (hseg a (by simp))] at ha; cases ha

/-- a repeat in front of items that cannot start inside its run took the whole run -/
theorem Consumes.run_inv {it : Item} {rest : List Item} {r t s' : List Char}
    (h : Consumes (it :: rest) (r ++ t) s') (hr : ∀ c ∈ r, it.cls.test c = true) (ht : StopsAt it.cls t)
    (hc : cantStart it.cls rest = true) : Consumes rest t s' := by
  obtain ⟨j, _, _, h'⟩ := h.prefix_inv ht
  cases hd : r.drop j with
  | nil => rwa [hd] at h'
  | cons x xs =>
    rw [hd] at h'
    have hx : x ∈ r := List.mem_of_mem_drop (hd ▸ List.mem_cons_self)
    rw [Consumes.cantStart_eq_false (hr x hx) h'] at hc; cases hc

theorem matchPat_some (p : Pattern) (s : List Char) (b : Bounds) (h : matchPat p s = some b) :
    ∃ s1 s2 s3, Consumes p.g1 s s1 ∧ Consumes p.mid s1 s2 ∧ Consumes p.g2 s2 s3 ∧
      b = ⟨s1.length, s2.length, s3.length⟩ := by
  unfold matchPat at h
  obtain ⟨s1, c1, h1⟩ := matchSeq_some _ _ _ _ h
  obtain ⟨s2, c2, h2⟩ := matchSeq_some _ _ _ _ h1
  obtain ⟨s3, c3, h3⟩ := matchSeq_some _ _ _ _ h2
  exact ⟨s1, s2, s3, c1, c2, c3, by cases h3; rfl⟩

theorem matchPat_of_greedy {p : Pattern} {s s1 s2 s3 : List Char} (h1 : Greedy p.g1 s s1)
    (h2 : Greedy p.mid s1 s2) (h3 : Greedy p.g2 s2 s3) :
    matchPat p s = some ⟨s1.length, s2.length, s3.length⟩ :=
  matchSeq_of_greedy h1 (matchSeq_of_greedy h2 (matchSeq_of_greedy h3 rfl))

theorem matchPat_none_of_absent (p : Pattern) (s : List Char) (it : Item)
    (hit : it ∈ p.g1 ++ (p.mid ++ p.g2)) (hlo : 1 ≤ it.lo) (hs : ∀ c ∈ s, it.cls.test c = false) :
    matchPat p s = none := by
  cases hm : matchPat p s with
  | none => rfl
  | some b =>
    obtain ⟨s1, s2, s3, c1, c2, c3, _⟩ := matchPat_some _ _ _ hm
    obtain ⟨x, c, hx, hc, ht⟩ := (c1.append (c2.append c3)).exists_mem it hit hlo
    rw [hs c (by rw [hx]; simp [hc])] at ht; cases ht

theorem subAux_skip (m : List Char → Option (Nat × List Char)) :
    ∀ (a b : List Char), subAux m a.length (a ++ b) = subAux m 0 b := by
  intro a
  induction a with
  | nil => intro b; rfl
  | cons x a ih => intro b; simp only [List.length_cons, List.cons_append, subAux]; exact ih b

theorem subAux_prefix (m : List Char → Option (Nat × List Char)) (rest : List Char) :
    ∀ (pre : List Char), (∀ j, j < pre.length → m (pre.drop j ++ rest) = none) →
      subAux m 0 (pre ++ rest) = pre ++ subAux m 0 rest := by
  intro pre
  induction pre with
  | nil => intro _; rfl
  | cons c pre ih =>
    intro h
    have h0 : m (c :: pre ++ rest) = none := by simpa using h 0 (by simp)
    have hrest : subAux m 0 (pre ++ rest) = pre ++ subAux m 0 rest :=
      ih (fun j hj => by simpa using h (j + 1) (by simp; omega))
    simp only [List.cons_append, subAux] at h0 ⊢
    rw [h0]
    simp only [List.cons.injEq, true_and]
    exact hrest

theorem subAux_match (m : List Char → Option (Nat × List Char)) (a b r : List Char)
    (ha : a ≠ []) (hm : m (a ++ b) = some (a.length, r)) :
    subAux m 0 (a ++ b) = r ++ subAux m 0 b := by
  cases a with
  | nil => exact absurd rfl ha
  | cons x a =>
    simp only [List.cons_append, List.length_cons] at hm ⊢
    simp only [subAux, hm]
    rw [subAux_skip]

theorem subAux_none (m : List Char → Option (Nat × List Char)) :
    ∀ (s : List Char), (∀ j, j ≤ s.length → m (s.drop j) = none) → subAux m 0 s = s := by
  intro s
  induction s with
  | nil => intro h; have := h 0 (by simp); simp only [List.drop] at this; simp [subAux, this]
  | cons c s ih =>
    intro h
    have h0 : m (c :: s) = none := by simpa using h 0 (by simp)
    simp only [subAux, h0]
    rw [ih (fun j hj => by simpa using h (j + 1) (by simp; omega))]

theorem take_length_sub (a b : List Char) : (a ++ b).take ((a ++ b).length - b.length) = a := by
  have : (a ++ b).length - b.length = a.length := by simp
  rw [this]; simp

theorem drop_length_sub (a b : List Char) : (a ++ b).drop ((a ++ b).length - b.length) = b := by
  have : (a ++ b).length - b.length = a.length := by simp
  rw [this]; simp

theorem matchRepl_none (p : Pattern) (rep : List RepTok) (mask s : List Char)
    (h : matchPat p s = none) : matchRepl p rep mask s = none := by
  simp [matchRepl, h]


/-! ### one rendering: prefix without match, the match, suffix without match -/

theorem matchRepl_of_bounds (p : Pattern) (rep : List RepTok) (mask A B C post : List Char)
    (h : matchPat p (A ++ (B ++ (C ++ post)))
      = some ⟨(B ++ (C ++ post)).length, (C ++ post).length, post.length⟩) :
    matchRepl p rep mask (A ++ (B ++ (C ++ post))) = some ((A ++ (B ++ C)).length, expand rep A C mask) := by
  simp only [matchRepl, h]
  have h1 : (A ++ (B ++ (C ++ post))).length - post.length = (A ++ (B ++ C)).length := by
    simp only [List.length_append]; omega
  have h2 : List.take ((A ++ (B ++ (C ++ post))).length - (B ++ (C ++ post)).length) (A ++ (B ++ (C ++ post))) = A :=
    take_length_sub A _
  have h3 : List.drop ((A ++ (B ++ (C ++ post))).length - (C ++ post).length) (A ++ (B ++ (C ++ post))) = C ++ post := by
    have e : A ++ (B ++ (C ++ post)) = (A ++ B) ++ (C ++ post) := by simp
    rw [e]; exact drop_length_sub _ _
  have h4 : List.take ((C ++ post).length - post.length) (C ++ post) = C := take_length_sub C post
  rw [h1, h2, h3, h4]

/-- `re.sub` on `pre ++ s`, `s = A ++ B ++ C ++ post`, when no match starts in `pre`, the pattern matches
    `A|B|C` there, and nothing matches in `post` -/
theorem subPat_rendering {p : Pattern} {rep : List RepTok} {mask pre s s' A B C post : List Char}
    (hs : s = A ++ (B ++ (C ++ post))) (hs' : s' = expand rep A C mask ++ post) (hne : A ++ (B ++ C) ≠ [])
    (hpre : ∀ j, j < pre.length → matchPat p (pre.drop j ++ s) = none)
    (hm : matchPat p (A ++ (B ++ (C ++ post)))
      = some ⟨(B ++ (C ++ post)).length, (C ++ post).length, post.length⟩)
    (hpost : subPat p rep mask post = post) :
    subPat p rep mask (pre ++ s) = pre ++ s' := by
  subst hs hs'
  unfold subPat at hpost ⊢
  rw [subAux_prefix _ _ _ (fun j hj => matchRepl_none _ _ _ _ (hpre j hj))]
  congr 1
  have e : A ++ (B ++ (C ++ post)) = (A ++ (B ++ C)) ++ post := by simp only [List.append_assoc]
  have hr := matchRepl_of_bounds p rep mask A B C post hm
  rw [e] at hr ⊢
  rw [subAux_match _ _ _ _ hne hr, hpost]

theorem subPat_of_noMatch {p : Pattern} {M : List Char} (rep : List RepTok) (mask : List Char)
    (h : ∀ a b, M = a ++ b → matchPat p b = none) : subPat p rep mask M = M :=
  subAux_none _ _ fun j _ => matchRepl_none _ _ _ _ (h _ _ (List.take_append_drop j M).symm)

end Oslo.Flat
