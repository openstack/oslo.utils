/-
What `eat_chunk` can do to an inspector.  Post-processing acts on the state only by creating a
region whose name and length the format allows, deleting a region, stopping a plain region at
what it holds, and registering a safety check (`PP`).  The rest of `eat_chunk` presents the chunk
to regions and overwrites `_total_count` and the parsed-header fields (`Acts`).  Each of the two
is established by one walk through the engine; a property that `eat_chunk` keeps, whether or not
it raises, then only has to be checked on these few actions.
-/
import OsloModel.Inspector
namespace Oslo.Insp

/-- length of the region `n` in the format's initial table (0 if absent) -/
def initLen (f : Fmt) (n : String) : Nat :=
  match f.initRegions.find? (fun e => e.1 == n) with
  | some e => e.2.2.1
  | none => 0

/-- caps of the regions created while streaming: the literals and clamps of `vhdxPostProcess`,
    `vhdxAddVds`, `vmdkAddFooter`, `vmdkRelocate`.  "descriptor" is an initial name of VMDK (so not in
    `dynNames`) but is re-created, at a length the header announces, while streaming. -/
def dynCap : Fmt → String → Nat
  | .vhdx, "metadata" => 2048 * 32
  | .vhdx, "vds" => Gen.vhdxMetaTableMax
  | .vmdk, "footer" => 1536
  | .vmdk, "descriptor" => Gen.vmdkDescMaxSize
  | _, _ => 0

def cap (f : Fmt) (n : String) : Nat := max (initLen f n) (dynCap f n)

def dynNames : Fmt → List String
  | .vhdx => ["metadata", "vds"]
  | .vmdk => ["footer"]
  | _ => []

/-- every region name the format can ever have -/
def allowed (f : Fmt) : List String := f.initRegions.map (·.1) ++ dynNames f

/-- overwrite the fields post-processing never reads -/
def Insp.setAux (s : Insp) (t : Nat) (q : Option QcowInfo) (d : Option Bytes) (v : Bytes) : Insp :=
  { s with total := t, qcowInfo := q, descText := d, vmdkType := v }

theorem lemma_capture_fields (r : Region) (c : Bytes) (pos : Nat) :
    ∃ d o, r.capture c pos = { r with data := d, offset := o } := by
  fun_cases Region.capture r c pos <;> exact ⟨_, _, rfl⟩

theorem lemma_capture_endDone (r : Region) (c : Bytes) (pos : Nat) : (r.capture c pos).endDone = r.endDone := by
  obtain ⟨d, o, h⟩ := lemma_capture_fields r c pos
  rw [h]

theorem lemma_capture_rid (r : Region) (c : Bytes) (pos : Nat) : (r.capture c pos).rid = r.rid := by
  obtain ⟨d, o, h⟩ := lemma_capture_fields r c pos
  rw [h]

theorem lemma_newRegion_ok {s s' : Insp} {n : String} {off len : Nat} {ml : Option Nat} {e : Bool}
    (h : s.newRegion n off len ml e = .ok s') :
    s.hasRegion n = false ∧
    s' = { s with regions := s.regions ++ [(n, { rid := s.nextRid, offset := off, length := len,
                                                  minLength := ml, data := [], isEnd := e,
                                                  endDone := false })],
                  nextRid := s.nextRid + 1 } := by
  unfold Insp.newRegion at h
  split at h
  · cases h
  · next hh => exact ⟨by simpa using hh, (Except.ok.inj h).symm⟩

theorem lemma_deleteRegion_ok {s s' : Insp} {n : String} (h : s.deleteRegion n = .ok s') :
    s' = { s with regions := s.regions.filter (fun p => p.1 != n) } := by
  unfold Insp.deleteRegion at h
  split at h
  · exact (Except.ok.inj h).symm
  · cases h

theorem lemma_lookupR_mem (n : String) (rs : List (String × Region)) (r : Region)
    (h : lookupR n rs = some r) : (n, r) ∈ rs := by
  induction rs with
  | nil => simp [lookupR] at h
  | cons p rest ih =>
    obtain ⟨k, v⟩ := p
    simp only [lookupR] at h
    split at h
    · rename_i hk; subst hk; simp at h; subst h; simp
    · simp [ih h]

theorem lemma_lookupR_none (n : String) (rs : List (String × Region))
    (h : lookupR n rs = none) : n ∉ rs.map (·.1) := by
  induction rs with
  | nil => simp
  | cons p rest ih =>
    obtain ⟨k, v⟩ := p
    simp only [lookupR] at h
    split at h
    · simp at h
    · rename_i hk
      simp only [List.map_cons, List.mem_cons, not_or]
      exact ⟨fun e => hk e.symm, ih h⟩

theorem lemma_lookupR_filter_none (n : String) : ∀ (rs : List (String × Region)),
    lookupR n (rs.filter (fun p => p.1 != n)) = none := by
  intro rs
  induction rs with
  | nil => rfl
  | cons p rest ih =>
    obtain ⟨k, r⟩ := p
    by_cases hk : k = n
    · subst hk; simpa [List.filter_cons] using ih
    · have : ((k, r).1 != n) = true := by simpa using hk
      rw [List.filter_cons, if_pos this]
      simp only [lookupR, hk, if_false]
      exact ih

theorem lemma_init_eq {f : Fmt} {s0 : Insp} (h : Insp.init f = some s0) :
    s0 = { fmt := f, total := 0, regions := mkRegions f.initRegions 0,
           nextRid := f.initRegions.length, finished := false, checks := f.initChecks,
           qcowInfo := none, descText := none, vmdkType := formatNotFound } := by
  unfold Insp.init at h
  split at h
  · cases h
  · exact (Option.some.inj h).symm

theorem lemma_init_fmt {f : Fmt} {s0 : Insp} (h : Insp.init f = some s0) : s0.fmt = f := by
  rw [lemma_init_eq h]

theorem lemma_mkRegions_fresh (t : List Gen.RegionSpec) (k : Nat) :
    ∀ x ∈ mkRegions t k, x.2.rid < k + t.length ∧ x.2.data = [] ∧ x.2.endDone = false := by
  induction t generalizing k with
  | nil => intro x hx; cases hx
  | cons e rest ih =>
    obtain ⟨n, off, len, ml, isEnd⟩ := e
    intro x hx
    rcases List.mem_cons.mp hx with rfl | hx
    · exact ⟨by simp, rfl, rfl⟩
    · obtain ⟨h1, h2⟩ := ih (k + 1) x hx
      exact ⟨by rw [List.length_cons]; omega, h2⟩

/-- the actions of `post_process` of format `f`, any number of them.  An end-capture region needs a
    positive length (`lastN 0` keeps everything, so none would bound it) and only "footer" is ever
    one: that is what lets `trunc`, used on other names, assume a plain region. -/
inductive PP (f : Fmt) : Insp → Insp → Prop
  | refl (s : Insp) : PP f s s
  | trans {a b c : Insp} : PP f a b → PP f b c → PP f a c
  | new {s s' : Insp} {n : String} {off len : Nat} {ml : Option Nat} {isEnd : Bool} :
      s.newRegion n off len ml isEnd = .ok s' → n ∈ allowed f → len ≤ cap f n →
      (isEnd = true → 0 < len ∧ n = "footer") → PP f s s'
  | delete {s s' : Insp} {n : String} : s.deleteRegion n = .ok s' → PP f s s'
  | trunc (s : Insp) {n : String} :
      n ≠ "footer" → PP f s (s.updRegion n (fun r => { r with length := r.data.length }))
  | check (s : Insp) (k : String) : PP f s { s with checks := s.checks ++ [k] }

/-- the actions of `eat_chunk` of format `f`, any number of them -/
inductive Acts (f : Fmt) : Insp → Insp → Prop
  | refl (s : Insp) : Acts f s s
  | trans {a b c : Insp} : Acts f a b → Acts f b c → Acts f a c
  | pp {a b : Insp} : PP f a b → Acts f a b
  | capture (s : Insp) (c : Bytes) (only : List String) : Acts f s (s.captureAll c only)
  | aux (s : Insp) (t : Nat) (q : Option QcowInfo) (d : Option Bytes) (v : Bytes) :
      Acts f s (s.setAux t q d v)

theorem PP.fmt_eq {f : Fmt} {s s' : Insp} (h : PP f s s') : s'.fmt = s.fmt := by
  induction h with
  | refl | trunc | check => rfl
  | trans _ _ h1 h2 => exact h2.trans h1
  | new hn => rw [(lemma_newRegion_ok hn).2]
  | delete hd => rw [lemma_deleteRegion_ok hd]

theorem Acts.fmt_eq {f : Fmt} {s s' : Insp} (h : Acts f s s') : s'.fmt = s.fmt := by
  induction h with
  | refl | capture | aux => rfl
  | trans _ _ h1 h2 => exact h2.trans h1
  | pp h => exact h.fmt_eq

theorem lemma_vhdxAddVds_pp (s : Insp) (m : Region) (ioff ilen : Nat) :
    PP .vhdx s (vhdxAddVds s m ioff ilen).1 := by
  have h1 : PP .vhdx s (s.updRegion "metadata" (fun r => { r with length := r.data.length })) :=
    .trunc s (by decide)
  fun_cases vhdxAddVds s m ioff ilen
  · exact h1
  · next hn =>
    exact h1.trans (.new hn (by decide) (Nat.le_trans (Nat.min_le_right _ _) (by decide)) (by simp))

theorem lemma_vhdxPP_pp (s : Insp) : PP .vhdx s (vhdxPostProcess s).1 := by
  -- two branches add a region; every other branch returns `s` itself
  fun_cases vhdxPostProcess s
  case case5 hn => exact .new hn (by decide) (by decide) (by simp)   -- "metadata" created
  case case9 => exact lemma_vhdxAddVds_pp s _ _ _                   -- size item found
  all_goals exact .refl s

theorem lemma_vmdkAddFooter_ok {s s1 : Insp} {g : Nat} (h : vmdkAddFooter s g = .ok s1) :
    s1 = s ∨ ∃ s', s.newRegion "footer" 1536 1536 none true = .ok s' ∧
      s1 = { s' with checks := s'.checks ++ ["footer"] } := by
  unfold vmdkAddFooter at h
  split at h
  · split at h
    · cases h
    · next s' hn =>
      split at h
      · cases h
      · exact .inr ⟨s', hn, (Except.ok.inj h).symm⟩
  · exact .inl (Except.ok.inj h).symm

theorem lemma_vmdkRelocate_pp (s : Insp) (ds dn : Nat) : PP .vmdk s (vmdkRelocate s ds dn).1 := by
  fun_cases vmdkRelocate s ds dn
  case case4 hd _ _ => exact .delete hd   -- "descriptor" deleted, re-creation raised
  case case5 hd _ hn =>                   -- "descriptor" re-created at its announced place
    exact (PP.delete hd).trans
      (.new hn (by decide) (Nat.le_trans (Nat.min_le_right _ _) (by decide)) (by simp))
  all_goals exact .refl s

theorem lemma_vmdkPP_pp (s : Insp) : PP .vmdk s (vmdkPostProcess s).1 := by
  fun_cases vmdkPostProcess s
  case case5 hd => exact .delete hd   -- text descriptor: "header" dropped
  case case9 he =>                    -- sparse header: footer announced or not, then relocation
    rcases lemma_vmdkAddFooter_ok he with rfl | ⟨s', hn, rfl⟩
    · exact lemma_vmdkRelocate_pp ..
    · exact (PP.new hn (by decide) (by decide) (by simp)).trans
        ((PP.check s' _).trans (lemma_vmdkRelocate_pp ..))
  all_goals exact .refl s

theorem lemma_postProcess_pp (s : Insp) : PP s.fmt s (postProcess s).1 := by
  unfold postProcess
  split
  · next hf => rw [hf]; exact lemma_vhdxPP_pp s
  · next hf => rw [hf]; exact lemma_vmdkPP_pp s
  · exact .refl s

theorem lemma_regionComplete_aux (s : Insp) (n : String) :
    ∃ q d v, (regionComplete s n).1 = s.setAux s.total q d v := by
  fun_cases regionComplete s n
  · fun_cases qcowRegionComplete s <;> exact ⟨_, _, _, rfl⟩
  · fun_cases vmdkParseDescriptor s <;> exact ⟨_, _, _, rfl⟩
  all_goals exact ⟨_, _, _, rfl⟩

theorem lemma_runCallbacks_aux (s : Insp) (names : List String) :
    ∃ q d v, (runCallbacks s names).1 = s.setAux s.total q d v := by
  fun_induction runCallbacks s names with
  | case1 s => exact ⟨_, _, _, rfl⟩
  | case2 s n ns s2 e h =>
    have := lemma_regionComplete_aux s n
    rwa [h] at this
  | case3 s n ns s2 h ih =>
    obtain ⟨q, d, v, h1⟩ := lemma_regionComplete_aux s n
    rw [h] at h1
    obtain ⟨q2, d2, v2, h2⟩ := ih
    exact ⟨q2, d2, v2, by rw [h2, show s2 = _ from h1]; rfl⟩

theorem lemma_runCallbacks_acts (f : Fmt) (s : Insp) (names : List String) :
    Acts f s (runCallbacks s names).1 := by
  obtain ⟨q, d, v, h⟩ := lemma_runCallbacks_aux s names
  rw [h]
  exact .aux ..

/-- one round of the `while new_regions` loop, up to the recursive call -/
theorem lemma_round_acts {s s2 : Insp} {c : Bytes} {only : List String} {e : Option Err}
    (h : postProcess (s.captureAll c only) = (s2, e)) : Acts s.fmt s s2 := by
  have := (Acts.capture s c only).trans (.pp (lemma_postProcess_pp (s.captureAll c only)))
  rwa [h] at this

theorem lemma_followUp_acts (fuel : Nat) (s : Insp) (c : Bytes) (seen : List Nat) :
    Acts s.fmt s (followUp fuel s c seen).1 := by
  fun_induction followUp fuel s c seen with
  | case1 | case2 | case3 => exact .refl _   -- out of fuel, or no new region
  | case4 fuel s c seen fresh _ s1 s2 e h => exact lemma_round_acts h   -- `post_process` raised
  | case5 fuel s c seen fresh _ s1 s2 h ih =>   -- one round, then the loop again
    have h1 := lemma_round_acts h
    rw [h1.fmt_eq] at ih
    exact h1.trans ih

theorem lemma_eatChunk_acts (s : Insp) (c : Bytes) : Acts s.fmt s (eatChunk s c).1 := by
  have h0 : Acts s.fmt s { s with total := s.total + c.length } :=
    .aux s (s.total + c.length) s.qcowInfo s.descText s.vmdkType
  fun_cases eatChunk s c
  case case1 => exact h0                                   -- already finished: raises
  case case2 h2 => exact h0.trans (lemma_round_acts h2)   -- the first `post_process` raised
  case case3 s3 h2 _ _ h3 =>                               -- the loop raised
    have h1 := h0.trans (lemma_round_acts h2)
    have h4 := lemma_followUp_acts 8 s3 c (s.regions.map (·.2.rid))
    rw [h3, h1.fmt_eq] at h4
    exact h1.trans h4
  case case4 s3 h2 _ h3 _ =>                               -- the callbacks run
    have h1 := h0.trans (lemma_round_acts h2)
    have h4 := lemma_followUp_acts 8 s3 c (s.regions.map (·.2.rid))
    rw [h3, h1.fmt_eq] at h4
    exact h1.trans (h4.trans (lemma_runCallbacks_acts ..))

theorem lemma_feed_cons (s : Insp) (c : Bytes) (cs : List Bytes) :
    feed s (c :: cs) = if (eatChunk s c).2 = none then feed (eatChunk s c).1 cs else eatChunk s c := by
  rw [feed]
  cases eatChunk s c with
  | mk s1 e => cases e <;> rfl

theorem lemma_feed_append (a : List Bytes) : ∀ (s : Insp) (b : List Bytes),
    feed s (a ++ b) = match feed s a with
      | (s1, some e) => (s1, some e)
      | (s1, none) => feed s1 b := by
  induction a with
  | nil => intro s b; rfl
  | cons c cs ih =>
    intro s b
    simp only [List.cons_append, feed]
    cases he : eatChunk s c with
    | mk s1 e =>
      cases e with
      | some e => rfl
      | none => exact ih s1 b

theorem lemma_feed_acts (s : Insp) (chunks : List Bytes) : Acts s.fmt s (feed s chunks).1 := by
  fun_induction feed s chunks with
  | case1 s => exact .refl s
  | case2 s c cs s1 e he =>
    have h1 := lemma_eatChunk_acts s c
    rwa [he] at h1
  | case3 s c cs s1 he ih =>
    have h1 := lemma_eatChunk_acts s c
    rw [he] at h1
    rw [h1.fmt_eq] at ih
    exact h1.trans ih

theorem lemma_vhdxPP_fmt (s : Insp) : (vhdxPostProcess s).1.fmt = s.fmt :=
  (lemma_vhdxPP_pp s).fmt_eq

theorem lemma_postProcess_fmt (s : Insp) : (postProcess s).1.fmt = s.fmt :=
  (lemma_postProcess_pp s).fmt_eq

theorem lemma_followUp_fmt (fuel : Nat) (s : Insp) (c : Bytes) (seen : List Nat) :
    (followUp fuel s c seen).1.fmt = s.fmt :=
  (lemma_followUp_acts fuel s c seen).fmt_eq

theorem lemma_eatChunk_fmt (s : Insp) (c : Bytes) : (eatChunk s c).1.fmt = s.fmt :=
  (lemma_eatChunk_acts s c).fmt_eq

end Oslo.Insp
