/-
Reading a whole source through an `InspectWrapper` WITH an expected format, generic in the
inspectors (`IOps σ`; assumptions: `NameStable`, pairwise distinct names).  A read that ends
normally is the read without expected format (`pipe_done`); otherwise the stream is cut at the
first chunk on which the expected inspector's decision (`xdec`) is not "go on", and where it is
cut and how it ends is computed from that inspector alone (`xrun`, `pipe_expected`).
-/
import OsloProofs.Lemmas.WrapRun
namespace Oslo.Insp

variable {σ : Type}

/-- the expected inspector alone over the chunk list: how many chunks pass before the first chunk
    whose decision is not "go on", and that decision (`.done` = all chunks passed) -/
def xrun (ops : IOps σ) : σ → List Bytes → Nat × POut
  | _, [] => (0, .done)
  | s, c :: cs =>
    match xdec ops s c with
    | .done => ((xrun ops (ops.eat s c).1 cs).1 + 1, (xrun ops (ops.eat s c).1 cs).2)
    | o => (0, o)

theorem xrun_cons_done (ops : IOps σ) (s : σ) (c : Bytes) (cs : List Bytes) (h : xdec ops s c = .done) :
    xrun ops s (c :: cs) = ((xrun ops (ops.eat s c).1 cs).1 + 1, (xrun ops (ops.eat s c).1 cs).2) := by
  simp only [xrun, h]

theorem xrun_cons_stop (ops : IOps σ) (s : σ) (c : Bytes) (cs : List Bytes) (h : xdec ops s c ≠ .done) :
    xrun ops s (c :: cs) = (0, xdec ops s c) := by
  simp only [xrun]

theorem pipe_done (ops : IOps σ) : ∀ (cs : List Bytes) (w : Wrap σ) (out : List Bytes),
    (Wrap.pipe ops w cs out).2.2 = .done →
    Wrap.pipe ops w cs out =
      ((Wrap.pipe ops { w with expected := none } cs out).1,
       { (Wrap.pipe ops { w with expected := none } cs out).2.1 with expected := w.expected }, .done) := by
  intro cs
  induction cs with
  | nil => intro w out _; rfl
  | cons c cs ih =>
    intro w out h
    simp only [pipe_cons] at h ⊢
    by_cases hd : (w.processChunk ops c).2 = .done
    · have hl := processLoop_eq_none_of_done ops w.expected c w.insps [] w.errored hd
      have h0 : Wrap.processChunk ops { w with expected := none } c =
          ({ (w.processChunk ops c).1 with expected := none }, .done) := by
        rw [processChunk_eq]
        dsimp only
        rw [← hl, show (processLoop ops w.expected c w.insps [] w.errored).2.2 = .done from hd]
        rfl
      rw [if_pos hd] at h ⊢
      rw [h0, if_pos rfl]
      exact ih (w.processChunk ops c).1 (c :: out) h
    · rw [if_neg hd] at h
      exact absurd h hd

theorem pipe_absent (ops : IOps σ) (hn : NameStable ops) : ∀ (cs : List Bytes) (w : Wrap σ) (out : List Bytes),
    (∀ i ∈ w.insps, some (ops.name i) ≠ w.expected) → (Wrap.pipe ops w cs out).2.2 = .done := by
  intro cs
  induction cs with
  | nil => intro w out _; rfl
  | cons c cs ih =>
    intro w out habs
    have hd : (w.processChunk ops c).2 = .done :=
      processLoop_done_of_expected_unfed ops w.expected c w.insps [] w.errored (fun i hi hx => absurd hx (habs i hi))
    rw [pipe_cons, if_pos hd]
    apply ih
    intro j hj
    obtain ⟨i, hi, hij, _⟩ := (errored_never_fed ops hn w c).1.mem_right j hj
    rw [hij]
    exact habs i hi

theorem stepI_name (ops : IOps σ) (hn : NameStable ops) (errd : List String) (c : Bytes) (i : σ) :
    ops.name (stepI ops errd c i) = ops.name i := by
  unfold stepI
  split
  · rfl
  · exact hn i c

theorem pipe_expected (ops : IOps σ) (hn : NameStable ops) :
    ∀ (cs : List Bytes) (w : Wrap σ) (out : List Bytes) (x : σ), Distinct ops w.insps → x ∈ w.insps →
    w.expected = some (ops.name x) → ops.name x ∉ w.errored →
    (Wrap.pipe ops w cs out).1 = out.reverse ++ cs.take (xrun ops x cs).1 ∧
    (Wrap.pipe ops w cs out).2.2 = (xrun ops x cs).2 := by
  intro cs
  induction cs with
  | nil => intro w out x _ _ _ _; simp [Wrap.pipe, xrun]
  | cons c cs ih =>
    intro w out x hd hx hexp hxe
    have ho : (w.processChunk ops c).2 = xdec ops x c := by
      rw [processChunk_eq, hexp]
      exact processLoop_outcome_expected ops c x _ _ _ hd hx hxe
    rw [pipe_cons, ho]
    by_cases hdec : xdec ops x c = .done
    · rw [if_pos hdec, xrun_cons_done ops x c cs hdec]
      -- the chunk went through as without expected format
      have hpc : (w.processChunk ops c).1 =
          { w with insps := w.insps.map (stepI ops w.errored c),
                   errored := w.errored ++ (w.insps.filter (newErr ops w.errored c)).map ops.name } := by
        rw [processChunk_eq, processLoop_eq_none_of_done ops _ c _ _ _ (ho.trans hdec), processLoop_none_eq ops c _ _ _ hd]
        rfl
      have hstep : stepI ops w.errored c x = (ops.eat x c).1 := by
        simp [stepI, hxe]
      have hxe' : ops.name x ∉ w.errored ++ (w.insps.filter (newErr ops w.errored c)).map ops.name := by
        intro hm
        rcases List.mem_append.mp hm with hm | hm
        · exact hxe hm
        · obtain ⟨j, hj, hjn⟩ := List.mem_map.mp hm
          obtain ⟨hj, hje⟩ := List.mem_filter.mp hj
          rw [distinct_inj ops w.insps hd j hj x hx hjn] at hje
          simp [newErr, decOf_done ops _ hdec] at hje
      obtain ⟨i1, i2⟩ := ih (w.processChunk ops c).1 (c :: out) (ops.eat x c).1
        (by rw [hpc]; exact distinct_map ops _ (stepI_name ops hn w.errored c) _ hd)
        (by rw [hpc, ← hstep]; exact List.mem_map.mpr ⟨x, hx, rfl⟩)
        (by rw [hn x c]; exact hexp)
        (by rw [hpc, hn x c]; exact hxe')
      exact ⟨by rw [i1]; simp, i2⟩
    · rw [if_neg hdec, xrun_cons_stop ops x c cs hdec]
      simp [ho]

theorem xrun_stop (ops : IOps σ) : ∀ (cs : List Bytes) (s : σ), (xrun ops s cs).2 ≠ .done →
    ∃ pre c post, cs = pre ++ c :: post ∧ pre.length = (xrun ops s cs).1 ∧
      (gfeed ops s pre).2 = none ∧ decOf ops (gfeed ops s (pre ++ [c])) = (xrun ops s cs).2 := by
  intro cs
  induction cs with
  | nil => intro s h; simp [xrun] at h
  | cons c cs ih =>
    intro s h
    by_cases hdec : xdec ops s c = .done
    · rw [xrun_cons_done ops s c cs hdec] at h ⊢
      have hnoerr := decOf_done ops _ hdec
      obtain ⟨pre, c', post, hcs, hlen, hok, hd⟩ := ih (ops.eat s c).1 h
      refine ⟨c :: pre, c', post, by simp [hcs], by simp [hlen], ?_, ?_⟩
      · rw [gfeed_cons_ok ops s c pre hnoerr]; exact hok
      · rw [List.cons_append, gfeed_cons_ok ops s c _ hnoerr]; exact hd
    · rw [xrun_cons_stop ops s c cs hdec]
      refine ⟨[], c, cs, rfl, rfl, rfl, ?_⟩
      rw [List.nil_append, gfeed_single]
      rfl

theorem xrun_done (ops : IOps σ) : ∀ (cs : List Bytes) (s : σ), (xrun ops s cs).2 = .done →
    (xrun ops s cs).1 = cs.length ∧ (gfeed ops s cs).2 = none ∧
    ∀ pre c post, cs = pre ++ c :: post → decOf ops (gfeed ops s (pre ++ [c])) = .done := by
  intro cs
  induction cs with
  | nil =>
    intro s _
    refine ⟨rfl, rfl, ?_⟩
    intro pre c post h
    simp at h
  | cons c cs ih =>
    intro s h
    by_cases hdec : xdec ops s c = .done
    · rw [xrun_cons_done ops s c cs hdec] at h ⊢
      have hnoerr := decOf_done ops _ hdec
      obtain ⟨h1, h2, h3⟩ := ih (ops.eat s c).1 h
      refine ⟨by simp [h1], by rw [gfeed_cons_ok ops s c cs hnoerr]; exact h2, ?_⟩
      intro pre c' post hsplit
      cases pre with
      | nil =>
        simp only [List.nil_append, List.cons.injEq] at hsplit
        rw [List.nil_append, ← hsplit.1, gfeed_single]
        exact hdec
      | cons p pre =>
        simp only [List.cons_append, List.cons.injEq] at hsplit
        rw [List.cons_append, ← hsplit.1, gfeed_cons_ok ops s c _ hnoerr]
        exact h3 pre c' post hsplit.2
    · rw [xrun_cons_stop ops s c cs hdec] at h
      exact absurd h hdec

/-- if what `_process_chunk` reads off the inspector at every chunk boundary is `D` of the bytes
    streamed so far, and a decision other than "go on" is not revised by further bytes, the run
    ends as `D` of the whole stream says: the first boundary that decides does so as the end of
    the stream would -/
theorem xrun_eq_of_stable (ops : IOps σ) (s : σ) (cs : List Bytes) (D : Bytes → POut)
    (hD : ∀ pre c post, cs = pre ++ c :: post →
      decOf ops (gfeed ops s (pre ++ [c])) = D (pre ++ [c]).flatten)
    (hmono : ∀ q r, D q = .done ∨ D q = D (q ++ r)) (h0 : D [] = .done) :
    (xrun ops s cs).2 = D cs.flatten := by
  by_cases hd : (xrun ops s cs).2 = .done
  · rw [hd]
    rcases List.eq_nil_or_concat cs with rfl | ⟨pre, c, hcs⟩
    · exact h0.symm
    · rw [List.concat_eq_append] at hcs
      rw [← (xrun_done ops cs s hd).2.2 pre c [] hcs, hD pre c [] hcs, hcs]
  · obtain ⟨pre, c, post, hcs, _, _, hdec⟩ := xrun_stop ops cs s hd
    rw [← hdec, hD pre c post hcs] at hd ⊢
    have hfl : cs.flatten = (pre ++ [c]).flatten ++ post.flatten := by rw [hcs]; simp
    rw [hfl]
    exact (hmono _ _).resolve_left hd

theorem xrun_eq_of_threshold (ops : IOps σ) (s : σ) (cs : List Bytes) (N : Nat) (X : POut) (hN : 0 < N)
    (hD : ∀ pre c post, cs = pre ++ c :: post →
      decOf ops (gfeed ops s (pre ++ [c])) = if (pre ++ [c]).flatten.length < N then .done else X) :
    (xrun ops s cs).2 = if cs.flatten.length < N then .done else X := by
  refine xrun_eq_of_stable ops s cs (fun q => if q.length < N then .done else X) hD ?_ (if_pos hN)
  intro q r
  by_cases hq : q.length < N
  · exact .inl (if_pos hq)
  · exact .inr (by rw [if_neg hq, if_neg (by rw [List.length_append]; omega)])

end Oslo.Insp
